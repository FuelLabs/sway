import SwayVerif.Lemmas.Ty
/-!
# C10 — the trivial-encoding fast path is sound

`isEncodeTrivial` / `isDecodeTrivial` evaluate the `is_*_trivial` bodies that `gen/codec_trivial.py` re-extracts from
`codec.sw`, `vec.sw`, `bytes.sw`, `string.sw` and the auto-impl generator `abi_encoding.rs` on every run;
`memIdEq` is the test `__runtime_mem_id::<T>() == __encoding_mem_id::<T>()` computed from the two descriptions
(`get_runtime_representation` / `get_encoding_representation`) whose leaf sizes and padding rules
`gen/mem_repr.py` re-extracts; `runtimeImage` is the layout the backend uses (`sway-ir` `Type::size` & field
offsets). The theorems hold for ALL types and values; they are stated for the *regenerated* tables, so an edit to
any `is_*_trivial` body, to the auto-impl conjunction or to the two descriptions either keeps them true or stops
this file from compiling.

`_partial`: the statements exclude types containing `std::codec::TrivialEnum<T>`, whose hand-written impls are the
literal `true` for every `T`. That is a real defect of the unchanged tree (known finding; negation witnesses
`C10_trivialEnum_counterexample`, `C10_trivialEnum_decode_counterexample` below, replayed on the FuelVM by the check).
-/
namespace SwayVerif.C10
open SwayVerif.Abi SwayVerif.Generated

/-- The regenerated tables say what the soundness proofs need (see `TablesOK`). -/
theorem tables_wellformed : TablesOK := tables_wellformed_aux

/-- Classified trivially encodable ⇒ the memory image has no undetermined byte (no padding, no pointer) and is,
byte for byte, the canonical encoding. -/
theorem C10_encode_image_partial {t : Ty} (hn : noTrivialEnum t = true) (ht : isEncodeTrivial t = true)
    (v : Val) (h : HasType t v) : runtimeImage t v = known (encode t v) :=
  enc_img t hn ht v h

/-- `C10_encode`: classified trivially encodable ⇒ in-memory bytes of every value = its canonical encoding. -/
theorem C10_encode_partial {t : Ty} (hn : noTrivialEnum t = true) (ht : isEncodeTrivial t = true)
    (v : Val) (h : HasType t v) : runtimeBytes t v = encode t v :=
  runtimeBytes_of_trivial hn ht h

/-- `C10_decode`: classified trivially decodable ⇒ every byte string of `__size_of::<T>()` bytes is the memory image
of a (valid) value, and the canonical decoder returns exactly that value: reinterpreting the bytes is decoding. -/
theorem C10_decode_partial {t : Ty} (hn : noTrivialEnum t = true) (ht : isDecodeTrivial t = true)
    (bs : List UInt8) (h : bs.length = sizeRT t) :
    ∃ v, HasType t v ∧ runtimeBytes t v = bs ∧ runtimeImage t v = known bs ∧ decode t bs = some (v, []) := by
  obtain ⟨v, hv, hi, rfl⟩ := dec_onto t hn ht bs h
  exact ⟨v, hv, by rw [runtimeBytes, hi, getD_known], hi, by simpa using (decode_eq_some t _ _ []).2 ⟨hv, rfl⟩⟩

theorem decodeVariant_unknown_tag (ts : List Ty) (i tag : Nat) (bs : List UInt8) (h : ts.length ≤ i) :
    decodeVariant ts i tag bs = none := by
  induction ts generalizing i with
  | nil => rfl
  | cons t ts ih =>
    cases i with
    | zero => cases h
    | succ i => exact ih i (Nat.le_of_succ_le_succ h)

/-- `C10_invalid_reverts`: the decoder rejects (model of `__revert(0)`) a `bool` byte other than 0/1 and an enum
tag ≥ the number of variants, wherever they occur: it never returns anything but a valid value read from that
value's canonical bytes. -/
theorem C10_invalid_reverts :
    (∀ (b : UInt8) (r : List UInt8), b ≠ 0 → b ≠ 1 → decode .bool (b :: r) = none) ∧
    (∀ (ts : List Ty) (tag : Nat) (r : List UInt8), ts.length ≤ tag → tag < 2 ^ 64 →
        decode (.enum ts) (beBytes 8 tag ++ r) = none) ∧
    (∀ (t : Ty) (bs : List UInt8) (v : Val) (r : List UInt8), decode t bs = some (v, r) →
        HasType t v ∧ bs = encode t v ++ r) := by
  refine ⟨?_, ?_, fun t bs v r => (decode_eq_some t bs v r).1⟩
  · intro b r h0 h1
    simp [decode, decodeBoolByte, h0, h1]
  · intro ts tag r hl ht
    unfold decode
    rw [(takeNat_eq_some (k := 8)).2 ⟨rfl, ht⟩]
    exact decodeVariant_unknown_tag ts tag tag r hl

/-- The encoder as implemented — raw copy of the value's memory when its type is classified trivial, raw copy of a
`Vec`'s element buffer when the element type is — produces the canonical encoding. -/
theorem C10_fastpath_encode_partial {t : Ty} (hn : noTrivialEnum t = true) (v : Val) (h : HasType t v) :
    implEncode t v = encode t v :=
  implEncode_eq hn h

/-- The decoder as implemented — `bool::abi_decode` with the validity check the translator found in `codec.sw`, the
generated enum decoder with its `_ => __revert(0)` arm — is the canonical decoder: in particular it rejects every
invalid pattern (`C10_invalid_reverts`). Breaks when the check is removed from the sources. -/
theorem C10_decoder_validates (t : Ty) (bs : List UInt8) : slowDecode t bs = decode t bs :=
  congrFun (slowDecode_eq t) bs

/-- The predicate the driver evaluates on the real memory bytes is the property's statement for one value. -/
theorem C10_prop_of_model (t : Ty) (v : Val) (trivE trivD : Bool) (mem : List UInt8) :
    propTrivial t v trivE trivD mem = true ↔ ((trivE = true ∨ trivD = true) → mem = encode t v) := by
  cases trivE <;> cases trivD <;> simp [propTrivial, beqBytes]

/-- KNOWN FINDING (negation witness): `std::codec::TrivialEnum<E>` is classified trivially encodable although the
memory image of a variant narrower than the widest one is not its canonical encoding
(`enum E { A: u8, B: u64 }`, value `A(5)`: memory `00…00 00…05` (16 bytes), encoding `00…00 05` (9 bytes)). -/
theorem C10_trivialEnum_counterexample :
    ∃ t v, isEncodeTrivial t = true ∧ HasType t v ∧ runtimeBytes t v ≠ encode t v :=
  ⟨.trivialEnum (.enum [.u8, .u64]), .seq [.variant 0 (.num 5)], by decide +kernel⟩

/-- KNOWN FINDING (negation witness, decode direction): decoding the canonical bytes of `A(5)` (followed by zero
bytes) as `TrivialEnum<E>` yields a value that re-encodes as `A(0)`. -/
theorem C10_trivialEnum_decode_counterexample :
    ∃ t v r, isDecodeTrivial t = true ∧ HasType t v ∧
      (implDecode t (encode t v ++ r)).map (encode t) ≠ some (encode t v) ∧
      (implDecode t (encode t v ++ r)).map (encode t) = some [0, 0, 0, 0, 0, 0, 0, 0, 0] :=
  ⟨.trivialEnum (.enum [.u8, .u64]), .seq [.variant 0 (.num 5)], [0, 0, 0, 0, 0, 0, 0], by decide +kernel⟩

-- non-vacuity: trivially encodable / decodable composite types exist, and padded ones are not classified trivial
example : isEncodeTrivial (.struct [.u64, .array .u8 8, .enum [.u64, .u64]]) = true := by decide
example : isDecodeTrivial (.tuple [.u64, .array .u8 16, .b256]) = true := by decide
example : isEncodeTrivial (.struct [.u8, .u64]) = false := by decide
example : isDecodeTrivial (.struct [.array .bool 8]) = false := by decide
example : isDecodeTrivial (.enum [.u64, .u64]) = false := by decide
example : noTrivialEnum (.struct [.u64, .array .u8 8, .enum [.u64, .u64]]) = true := by decide

end SwayVerif.C10
