import SwayVerif.Model.DataSection
import SwayVerif.Lemmas.DataSection
/-!
# C13 — Configurables patched at the reported offsets are observed

Model: `SwayVerif/Model/DataSection.lean` (`Entry::to_bytes`, `equiv`, `insert_data_value`,
`append_pointer`, `absolute_idx_to_offset`, `serialize_to_bytes`, the three loops of `to_bytecode_mut`).

What is proved here is the layout arithmetic for ALL entry lists / data sections / histories:
the bytes at a reported offset are exactly that entry's bytes, entries are disjoint, a patch at the reported
offset is the same as recompiling with the new bytes for that one entry, configurables with different names
never share an entry, and a successful layout pass addresses every entry at its final offset.
That the running program *observes* those bytes (decode at start-up, `log`) is tied by the end-to-end
correspondence (`patch` lines), not proved.
-/
namespace SwayVerif.C13
open SwayVerif.DataSection

/-- The bytes `[off i, off i + len i)` of the serialised section are `toBytes e_i` — every entry list. -/
theorem serialize_at_offset (es : List Entry) (i : Nat) (h : i < es.length) :
    slice (serializeChunks (chunks es)) (offsetAt (chunks es) i) es[i].toBytes.length = es[i].toBytes := by
  have h' : i < (chunks es).length := by simpa using h
  simpa using slice_ser (chunks es) i h'

/-- Entries occupy disjoint, ordered, word-aligned ranges inside the serialised section. -/
theorem entries_disjoint (es : List Entry) (i j : Nat) (hij : i < j) (hj : j < es.length) :
    offsetAt (chunks es) i + (es[i]'(Nat.lt_trans hij hj)).toBytes.length ≤ offsetAt (chunks es) j
    ∧ offsetAt (chunks es) j + es[j].toBytes.length ≤ (serializeChunks (chunks es)).length
    ∧ offsetAt (chunks es) j % 8 = 0 := by
  have hj' : j < (chunks es).length := by simpa using hj
  refine ⟨?_, ?_, offsetAt_mod8 _ _⟩
  · simpa using offsetAt_end_le (chunks es) hij (Nat.le_of_lt hj')
  · simpa [ser_length] using offsetAt_end_le (chunks es) hj' (Nat.le_refl _)

/-- Overwriting entry `j`'s byte range with `new` (same length): the patch is in range, entry `j`'s range
holds exactly `new`, every other entry's range is unchanged, and so is the length of the section. -/
theorem C13_patch_frame (es : List Entry) (j : Nat) (new : List Byte) (hj : j < es.length)
    (hl : new.length = es[j].toBytes.length) :
    ∃ buf', patch (serializeChunks (chunks es)) (offsetAt (chunks es) j) new = some buf'
      ∧ buf'.length = (serializeChunks (chunks es)).length
      ∧ slice buf' (offsetAt (chunks es) j) new.length = new
      ∧ ∀ k (hk : k < es.length), k ≠ j →
          slice buf' (offsetAt (chunks es) k) es[k].toBytes.length = es[k].toBytes := by
  obtain ⟨buf', h1, h2, h3, h4⟩ := patch_frame (chunks es) j new (by simpa using hj) (by simpa using hl)
  refine ⟨buf', h1, h2, h3, fun k hk hkj => ?_⟩
  have hk' : k < (chunks es).length := by simpa using hk
  simpa using h4 k hk' hkj

/-- Whole bytecode, offset as the JSON ABI reports it (`code length + offset of entry (nonConf.length + j)`):
writing the encoding `e'.toBytes` of a new value there yields exactly the bytecode of the same program
compiled with configurable `j` replaced by `e'` — same code, same other entries, same offsets. -/
theorem C13_patch_is_recompile (code : List Byte) (ds : DS) (j : Nat) (e' : Entry) (hj : j < ds.conf.length)
    (hl : e'.toBytes.length = ds.conf[j].toBytes.length) :
    patch (bytecode code ds) (reportedOffset code.length ds j) e'.toBytes
      = some (bytecode code { ds with conf := ds.conf.set j e' })
    ∧ ∀ k, reportedOffset code.length { ds with conf := ds.conf.set j e' } k = reportedOffset code.length ds k := by
  have hidx : j + ds.nonConf.length < (chunks ds.all).length := by
    rw [length_chunks, DS.all, List.length_append, Nat.add_comm]; exact Nat.add_lt_add_left hj _
  have hl' : e'.toBytes.length = (chunks ds.all)[j + ds.nonConf.length].length := by
    simpa [DS.all, List.getElem_append_right] using hl
  have hset : chunks ({ ds with conf := ds.conf.set j e' } : DS).all
      = (chunks ds.all).set (j + ds.nonConf.length) e'.toBytes := by
    simp [chunks, DS.all, List.set_append_right]
  constructor
  · unfold bytecode reportedOffset DS.serialize DS.offsetOfAbs
    rw [patch_append_left, patch_ser _ _ _ hidx hl', hset]; rfl
  · intro k
    unfold reportedOffset DS.offsetOfAbs
    rw [hset, offsetAt_set _ _ _ hidx hl']

/-- `Entry::equiv` compares names: after ANY history of `insert_data_value` / `append_pointer`, two inserted
configurables with different names got different ids (they never share an entry, even with equal bytes). -/
theorem configurables_never_merged (ds0 : DS) (ops : List DOp) (a b : Nat) (ea eb : Entry) (x y : Name)
    (ha : ops[a]? = some (.insert ea)) (hb : ops[b]? = some (.insert eb))
    (hx : ea.name = some x) (hy : eb.name = some y) (hxy : x ≠ y) :
    ∃ ida idb, (ds0.run ops).2[a]? = some ida ∧ (ds0.run ops).2[b]? = some idb ∧ ida ≠ idb := by
  obtain ⟨ida, xa, h1, h2, h3, _⟩ := run_insert_name ops ds0 a ea ha
  obtain ⟨idb, xb, k1, k2, k3, _⟩ := run_insert_name ops ds0 b eb hb
  refine ⟨ida, idb, h1, k1, fun heq => ?_⟩
  subst heq
  cases h2.symm.trans k2
  exact hxy (Option.some.inj (hx.symm.trans (h3.symm.trans (k3.trans hy))))

/-- The id returned by `insert_data_value` resolves — after ANY later history — to an entry with exactly the
inserted entry's bytes and name: what the program reads at that id, and what the ABI offset of a
configurable points at, is the value that was inserted (merged or not). -/
theorem insert_lookup (ds0 : DS) (ops : List DOp) (a : Nat) (e : Entry) (ha : ops[a]? = some (.insert e)) :
    ∃ id x, (ds0.run ops).2[a]? = some id ∧ (ds0.run ops).1.get id = some x
      ∧ x.toBytes = e.toBytes ∧ x.name = e.name
      ∧ slice (ds0.run ops).1.serialize ((ds0.run ops).1.offsetOf id) e.toBytes.length = e.toBytes := by
  obtain ⟨id, x, h1, h2, h3, h4⟩ := run_insert_name ops ds0 a e ha
  refine ⟨id, x, h1, h2, h4, h3, ?_⟩
  have := slice_serialize_id _ id x h2
  rw [h4] at this; exact this

/-- Why `Entry::equiv` must compare the serialised bytes: `equiv_data` ignores paddings. The tuple
`(0u64, 5u64)` and the enum value `E::A(5)` of `enum E { A: u64, B: b256 }` (tag word, payload left-padded to
32 bytes) are equal as data and different as bytes; before the `fix:` they were merged and `log(X)` of
`const X: E = E::A(5)` printed garbage (replayed on the real compiler). -/
theorem equiv_data_ignores_padding :
    let tup : Entry := Entry.new (.coll (.cons (.word 0) (.right 8) (.cons (.word 5) (.right 8) .nil))) none none
    let enm : Entry := Entry.new (.coll (.cons (.word 0) (.right 8) (.cons (.word 5) (.left 32) .nil))) none none
    tup.value.equiv enm.value = true ∧ tup.toBytes.length = 16 ∧ enm.toBytes.length = 40
      ∧ tup.equiv enm = false := by
  decide +kernel

/-- Layout pass of `to_bytecode_mut` (size pass, pointer pre-insertion, emission), PARTIAL:
if the pass completes (`.ok b`), then — with the final data section `b.ds` — every `AddrDataId` immediate is
the entry's final offset, every copy-type `LoadDataId` immediate addresses the entry, every non-copy load reads
a data-section word holding `ptr` with `ptr + $pc = codeLen + final offset of the entry`, and the emitted code is
exactly `codeLen` bytes long (so the reported offsets `codeLen + offset` are offsets into the real bytecode).
Hypotheses: the pointer map is well-formed and top-level words are unpadded at the start (true of the empty map
the compiler starts with), and addressed offsets are below 2^18 (`addr_of` masks `MOVI`'s immediate silently).
Missing for the full `layout_stable`: the pass need not complete — see `layout_unstable_witness`. -/
theorem layout_stable_partial (ds0 : DS) (ops : List COp) (b : Bytecode)
    (hwf : PtrsWF ds0) (hpl : WordsPlain ds0) (h : toBytecode ds0 ops = .ok b)
    (hsmall : ∀ id, COp.addr id ∈ ops → b.ds.offsetOf id < 2 ^ 18) :
    ∃ ops', (ops' = ops ∨ ops' = ops ++ [.fixed 4]) ∧ allResolve b 0 ops' b.emits = true
      ∧ emitsSize b.emits = b.codeLen := by
  unfold toBytecode at h
  obtain ⟨sz, _, h⟩ := Res.bind_eq_ok h
  obtain ⟨dsf, hp1, h⟩ := Res.bind_eq_ok h
  obtain ⟨emits, hp2, h⟩ := Res.bind_eq_ok h
  have hops : (if sz % 8 = 0 then ops else ops ++ [COp.fixed 4]) = ops ∨
      (if sz % 8 = 0 then ops else ops ++ [COp.fixed 4]) = ops ++ [.fixed 4] := by
    split
    · exact .inl rfl
    · exact .inr rfl
  generalize (if sz % 8 = 0 then sz else sz + 4) = off0 at h hp1 hp2
  generalize (if sz % 8 = 0 then ops else ops ++ [COp.fixed 4]) = ops' at hops hp1 hp2
  by_cases hsize : emitsSize emits = off0
  · rw [if_pos hsize] at h
    cases h
    obtain ⟨w1, w2⟩ := pass1_inv _ _ _ _ _ hp1 hwf hpl
    refine ⟨ops', hops, pass2_resolves dsf _ emits w1 w2 _ 0 emits hp2 fun id hid => hsmall id ?_, hsize⟩
    rcases hops with rfl | rfl
    · exact hid
    · simpa using hid
  · rw [if_neg hsize] at h; cases h

/-- `layout_stable` is FALSE without a further hypothesis: a non-copy `LoadDataId` makes the pre-insertion pass
append a pointer word to the non-configurable part, which moves every configurable by 8 bytes AFTER the code
size was computed. If that moves an `AddrDataId` target across the 12-bit `ADDI` limit (4088 -> 4096) the op
grows from 4 to 8 bytes and `assert_eq!(bytecode.len(), offset_to_data_section_in_bytes)` fails. Replayed on
the real `to_bytecode_mut` (corpus/c13.txt, `bigarr 4088 … | Ln0 Ac0`). 40 bytes lower the same program is fine. -/
theorem layout_unstable_witness :
    let big (n : Nat) : Entry := Entry.new (.byteArray (List.replicate n 0x5a)) none none
    let cfg : Entry := Entry.new (.byteArray [1, 2, 3, 4, 5, 6, 7, 8]) (some ['D']) none
    let ds (n : Nat) : DS := (({} : DS).run [.insert (big n), .insert cfg]).1
    let ops : List COp := [.load ⟨false, 0⟩, .addr ⟨true, 0⟩]
    -- the hypotheses of `layout_stable_partial` hold: empty pointer map, no word entries at all
    (ds 4088).ptrs.isEmpty = true ∧ (ds 4088).all.all (fun e => !e.isCopy) = true
      ∧ (toBytecode (ds 4088) ops).isPanic .sizeAssert = true
      ∧ (toBytecode (ds 4048) ops).isOk = true := by
  intro big cfg ds ops
  have hl (n : Nat) (h8 : n % 8 = 0) : (big n).toBytes.length = n := by
    rw [toBytes_byteArray _ (by simpa using h8), List.length_replicate]
  have run (n : Nat) (h8 : n % 8 = 0) (hlo : n ≤ 4095) :=
    toBytecode_load_addr (big n) cfg n rfl (hl n h8) h8 hlo
  refine ⟨rfl, rfl, ?_, ?_⟩
  · show (toBytecode ⟨[big 4088], [cfg], []⟩ ops).isPanic _ = true
    rw [run 4088 (by decide) (by decide)]; rfl
  · show (toBytecode ⟨[big 4048], [cfg], []⟩ ops).isOk = true
    rw [run 4048 (by decide) (by decide)]; rfl

/-! Non-vacuity of the hypotheses of `layout_stable_partial` and `insert_lookup`: the empty data section the
compiler starts from is well-formed, and a concrete program lays out successfully. -/
example : PtrsWF {} ∧ WordsPlain {} := ⟨PtrsWF_of_isEmpty rfl, WordsPlain_of_noCopy rfl⟩
example : (toBytecode (({} : DS).run [.insert (Entry.new (.byteArray [1, 2, 3, 4, 5, 6, 7, 8, 9]) none none),
    .insert (Entry.new (.word 7) (some ['A']) none)]).1 [.load ⟨false, 0⟩, .addr ⟨true, 0⟩]).isOk = true := by
  decide +kernel
example : ([DOp.insert (Entry.new (.word 7) (some ['A']) none)])[0]? = some (.insert (Entry.new (.word 7) (some ['A']) none)) := rfl

end SwayVerif.C13
