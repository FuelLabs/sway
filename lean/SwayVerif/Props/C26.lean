import SwayVerif.Model.Cache
import SwayVerif.Lemmas.Cache
/-!
# C26 — incremental (LSP) compilation agrees with a fresh compilation: the cache protocol

For ALL module graphs, texts, versions and fuel (model: `SwayVerif/Model/Cache.lean`). The invariant the
property names — an entry the check accepts was built from the present text of its file and of every module
below it (`CacheInv`) — holds whenever `file_versions` marks every stale module with a newer version
(`Covers`). A round of the protocol as the server runs it when nothing is cancelled (edit `f` at the next
version, then a committed compilation with `file_versions = {f ↦ v}`, `f` being a module of the program)
re-establishes `Clean` (no stale typed module at all), from which the next edit has `Covers` again
(`cache_inv_preserved`, `C26_history_partial`); and on a clean state a reusing compilation assembles the
module results of a compilation from scratch (`C26_partial`).

The invariant was FALSE for the protocol as found once one of these conditions is dropped: the event
sequences under `## Witnesses`, replayed on the real server (corpus/c26.txt) and repaired. What is
missing from the full property: the typed module of a file also depends on the modules it imports (not
only on its own text and its submodules), reused modules do not replay their diagnostics, and garbage
collection removes declarations reused modules still point to — none of these is visible to the cache
protocol; they are covered by the per-history validation only.
-/
namespace SwayVerif.C26
open SwayVerif.Cache

/-! ## Termination of the recursive dependency check -/

/-- With acyclic `dependencies` (a rank decreases along them) both checks return once the fuel exceeds
the rank of the queried module, and the answer no longer depends on the fuel. -/
theorem upToDate_terminates (chk : Path → Entry → Bool) (c : Cache) (rank : Path → Nat)
    (hr : Ranked rank c) (p : Path) (n m : Nat) (hn : rank p < n) (hm : n ≤ m) :
    (upToDateG chk n c p).isSome = true ∧ upToDateG chk m c p = upToDateG chk n c p := by
  have h := upToDateG_isSome chk c rank hr n p hn
  refine ⟨h, ?_⟩
  cases hb : upToDateG chk n c p with
  | none => simp [hb] at h
  | some b => exact upToDateG_mono_le chk c hm hb

theorem tyUpToDate_terminates (c : Cache) (fv : FV) (rank : Path → Nat) (hr : Ranked rank c)
    (p : Path) (n m : Nat) (hn : rank p < n) (hm : n ≤ m) :
    (tyUpToDate n c fv p).isSome = true ∧ tyUpToDate m c fv p = tyUpToDate n c fv p :=
  upToDate_terminates (tyChk fv) c rank hr p n m hn hm

theorem parseUpToDate_terminates (fsok : Path → Entry → Bool) (c : Cache) (fv : FV) (rank : Path → Nat)
    (hr : Ranked rank c) (p : Path) (n m : Nat) (hn : rank p < n) (hm : n ≤ m) :
    (parseUpToDate fsok n c fv p).isSome = true ∧ parseUpToDate fsok m c fv p = parseUpToDate fsok n c fv p :=
  upToDate_terminates (parseChk fsok fv) c rank hr p n m hn hm

/-- A cycle in `dependencies` makes the check run out of any fuel (the code does not return). -/
theorem upToDate_cycle_diverges (n : Nat) :
    tyUpToDate n (fun _ => some ⟨0, [0], none, some ⟨none, fun _ => 0⟩⟩) markNone 0 = none := by
  induction n with
  | zero => rfl
  | succ n ih =>
    unfold tyUpToDate at ih ⊢
    rw [upToDateG]
    simp [tyChk, verOk, markNone, allDeps, ih]

/-! ## The invariant -/

/-- Every entry the typed check accepts describes the present text of its file and of every module
below it. -/
def CacheInv (disk : Disk) (c : Cache) (fv : FV) : Prop :=
  ∀ n p q, tyUpToDate n c fv p = some true → Reach c p q → ¬ Stale disk c q

/-- The invariant holds whenever `file_versions` marks every stale module with a newer version than the
one its typed module records. -/
theorem cacheInv_of_covers {disk : Disk} {c : Cache} {fv : FV} (h : Covers disk c fv) : CacheInv disk c fv := by
  intro n p q hacc hq
  obtain ⟨e, he, hk⟩ := upToDateG_accept_reach (tyChk fv) c n hq hacc
  exact tyChk_not_stale h he hk

/-- No typed module in the cache was built from a text that is not the present one. -/
def Clean (s : St) : Prop := ∀ q, ¬ Stale s.disk s.cache q

/-- Versions recorded in typed modules are below the next version the client hands out. -/
def VerBound (s : St) : Prop :=
  ∀ p e t tv, s.cache p = some e → e.typed = some t → t.ver = some tv → tv < s.nextVer

structure Inv (rank : Path → Nat) (s : St) : Prop where
  clean : Clean s
  ver : VerBound s
  ranked : Ranked rank s.cache

/-- After an edit of `f` on a clean state the `file_versions` of that edit cover the stale entries. -/
theorem covers_after_edit {rank : Path → Nat} {s : St} (h : Inv rank s) (f : Path) (x : Content) :
    Covers (fun q => if q = f then x else s.disk q) s.cache (mark f s.nextVer) := by
  intro p e t he ht hne
  by_cases hp : p = f
  · subst hp
    exact ⟨s.nextVer, if_pos rfl, fun tv htv => h.ver p e t tv he ht htv⟩
  · exact absurd ⟨e, t, he, ht, by simpa [hp] using hne⟩ (h.clean p)

theorem step_jobCommit (depsOf : Path → Content → List Path) (fsok : Disk → Path → Entry → Bool)
    (F : Nat) (root : Path) (s : St) (fv : FV) :
    step depsOf fsok F root s (.jobCommit fv) =
      match runJob depsOf fsok F root s fv with
      | .reused => s
      | .compiled c => { s with cache := c, prog := some s.disk } := rfl

section Commit
variable {depsOf : Path → Content → List Path} {fsok : Disk → Path → Entry → Bool} {F : Nat} {root : Path}
  {rank : Path → Nat} {s : St} {fv : FV} {c' : Cache}

/-- A job that compiles runs the parse pass and then the type-check pass. -/
theorem runJob_compiled (hjob : runJob depsOf fsok F root s fv = .compiled c') :
    c' = tyTree F s.disk fv F (parseTree depsOf s.disk fv F s.cache root) root := by
  unfold runJob at hjob
  split at hjob
  · cases hjob
  · exact (Outcome.compiled.inj hjob).symm

/-- A job that compiles makes no module stale and keeps the version bound and the ranks, whatever
`file_versions` it carries below the next version. -/
theorem compiled_inv (hdeps : ∀ p x d, d ∈ depsOf p x → rank d < rank p) (hr : Ranked rank s.cache)
    (hv : VerBound s) (hfv : ∀ q v, fv q = some (some v) → v < s.nextVer)
    (hjob : runJob depsOf fsok F root s fv = .compiled c') :
    (∀ q, Stale s.disk c' q → Stale s.disk s.cache q) ∧
      VerBound { s with cache := c', prog := some s.disk } ∧ Ranked rank c' := by
  obtain rfl := runJob_compiled hjob
  have hsub := parseTree_sub depsOf s.disk fv F s.cache root
  have hts := tyTree_step F s.disk fv F (parseTree depsOf s.disk fv F s.cache root) root
  refine ⟨fun q hq => hsub.stale (hts.stale hq), ?_,
    Ranked.of_deps (fun q => (hts.deps q).symm) (parseTree_ranked depsOf s.disk fv rank hdeps F s.cache root hr)⟩
  intro p e' t' tv he' ht' htv
  rcases hts.typed_some he' ht' with ⟨e₁, he₁, ht₁⟩ | ⟨_, hver⟩
  · -- the typed module survived both passes
    obtain ⟨e, he, ht⟩ := hsub.typed_some he₁ ht₁
    exact hv p e t' tv he ht htv
  · -- built by this job: its version is the one `fv` gives
    exact hfv p tv (joinV_eq_some (hver ▸ htv))

/-- With enough fuel and `file_versions` that cover the stale entries, no module of the program a job
compiled is stale. -/
theorem compiled_reach_not_stale (hdeps : ∀ p x d, d ∈ depsOf p x → rank d < rank p) (hF : rank root < F)
    (hr : Ranked rank s.cache) (hcov : Covers s.disk s.cache fv)
    (hjob : runJob depsOf fsok F root s fv = .compiled c') {q : Path} (hq : Reach c' root q) :
    ¬ Stale s.disk c' q := by
  obtain rfl := runJob_compiled hjob
  have hts := tyTree_step F s.disk fv F (parseTree depsOf s.disk fv F s.cache root) root
  exact tyTree_sound F s.disk fv rank F _ root
    (parseTree_ranked depsOf s.disk fv rank hdeps F s.cache root hr)
    ((parseTree_sub depsOf s.disk fv F s.cache root).covers hcov) hF q (Reach.of_deps hts.deps hq)

end Commit

/-- **Invariant preservation** for a round of the protocol without cancellation: edit `f` (next
version), then a committed compilation of that request that really compiled (`.compiled c'`) and has
`f` among the modules of the program. -/
theorem cache_inv_preserved (depsOf : Path → Content → List Path) (fsok : Disk → Path → Entry → Bool)
    (F : Nat) (root : Path) (rank : Path → Nat)
    (hdeps : ∀ p x d, d ∈ depsOf p x → rank d < rank p) (hF : rank root < F)
    (s : St) (h : Inv rank s) (f : Path) (x : Content) (c' : Cache)
    (hjob : runJob depsOf fsok F root (step depsOf fsok F root s (.edit f x)) (mark f s.nextVer) = .compiled c')
    (hf : Reach c' root f) :
    Inv rank (step depsOf fsok F root (step depsOf fsok F root s (.edit f x)) (.jobCommit (mark f s.nextVer))) := by
  rw [step_jobCommit, hjob]
  have hfv : ∀ q v, mark f s.nextVer q = some (some v) → v < s.nextVer + 1 := by
    intro q v hv
    by_cases hq : q = f
    · cases (if_pos hq).symm.trans hv; exact Nat.lt_succ_self _
    · cases (if_neg hq).symm.trans hv
  obtain ⟨hst, hver, hrk⟩ := compiled_inv (s := step depsOf fsok F root s (.edit f x)) hdeps h.ranked
    (fun p e t tv he ht htv => Nat.lt_succ_of_lt (h.ver p e t tv he ht htv)) hfv hjob
  refine ⟨fun q hq => ?_, hver, hrk⟩
  -- a stale module was stale before the job, so it is `f`, which the job reached
  by_cases hqf : q = f
  · exact compiled_reach_not_stale (s := step depsOf fsok F root s (.edit f x)) hdeps hF h.ranked
      (covers_after_edit h f x) hjob (hqf ▸ hf) hq
  · obtain ⟨e, t, he, ht, hne⟩ := hst q hq
    exact h.clean q ⟨e, t, he, ht, fun heq => hne (heq.trans (if_neg hqf).symm)⟩

/-- Cancelled (or failed) compilations and garbage collection do not change the committed cache. -/
theorem cache_inv_cancel_gc (depsOf : Path → Content → List Path) (fsok : Disk → Path → Entry → Bool)
    (F : Nat) (root : Path) (rank : Path → Nat) (s : St) (h : Inv rank s) :
    (∀ fv, Inv rank (step depsOf fsok F root s (.jobCancelled fv))) ∧
    (∀ f, Inv rank (step depsOf fsok F root s (.gc f))) :=
  ⟨fun _ => h, fun _ => h⟩

/-- A committed compilation on a clean state (a save, an open, a retried request) keeps the state
clean, whatever `file_versions` it carries below the next version, provided it recompiles or reuses. -/
theorem cache_inv_commit_clean (depsOf : Path → Content → List Path) (fsok : Disk → Path → Entry → Bool)
    (F : Nat) (root : Path) (rank : Path → Nat)
    (hdeps : ∀ p x d, d ∈ depsOf p x → rank d < rank p)
    (s : St) (h : Inv rank s) (fv : FV) (hfv : ∀ q v, fv q = some (some v) → v < s.nextVer) :
    Inv rank (step depsOf fsok F root s (.jobCommit fv)) := by
  rw [step_jobCommit]
  cases hrj : runJob depsOf fsok F root s fv with
  | reused => exact h
  | compiled c' =>
    obtain ⟨hst, hver, hrk⟩ := compiled_inv hdeps h.ranked h.ver hfv hrj
    exact ⟨fun q hq => h.clean q (hst q hq), hver, hrk⟩

/-- Histories that exclude the bad windows: every edit is compiled and committed (with its own
`file_versions`, the edited file being a module of the program) before the next edit; in between any
number of cancelled compilations, garbage collections and committed compilations of older or
version-less requests (save, open). -/
inductive GoodRun (depsOf : Path → Content → List Path) (fsok : Disk → Path → Entry → Bool) (F : Nat) (root : Path) :
    St → St → Prop
  | nil (s : St) : GoodRun depsOf fsok F root s s
  | round {s₀ s : St} (f : Path) (x : Content) (c' : Cache) :
      GoodRun depsOf fsok F root s₀ s →
      runJob depsOf fsok F root (step depsOf fsok F root s (.edit f x)) (mark f s.nextVer) = .compiled c' →
      Reach c' root f →
      GoodRun depsOf fsok F root s₀
        (step depsOf fsok F root (step depsOf fsok F root s (.edit f x)) (.jobCommit (mark f s.nextVer)))
  | cancelled {s₀ s : St} (fv : FV) :
      GoodRun depsOf fsok F root s₀ s → GoodRun depsOf fsok F root s₀ (step depsOf fsok F root s (.jobCancelled fv))
  | gc {s₀ s : St} (f : Path) :
      GoodRun depsOf fsok F root s₀ s → GoodRun depsOf fsok F root s₀ (step depsOf fsok F root s (.gc f))
  | commitOld {s₀ s : St} (fv : FV) :
      GoodRun depsOf fsok F root s₀ s → (∀ q v, fv q = some (some v) → v < s.nextVer) →
      GoodRun depsOf fsok F root s₀ (step depsOf fsok F root s (.jobCommit fv))

/-- **History (partial).** `Inv` (clean, version bound, acyclic) is kept along every `GoodRun`. Histories of
another shape are not covered: the `found_*` witnesses below are such histories, on the protocol as found. -/
theorem C26_history_partial (depsOf : Path → Content → List Path) (fsok : Disk → Path → Entry → Bool)
    (F : Nat) (root : Path) (rank : Path → Nat)
    (hdeps : ∀ p x d, d ∈ depsOf p x → rank d < rank p) (hF : rank root < F)
    {s₀ s : St} (h₀ : Inv rank s₀) (hrun : GoodRun depsOf fsok F root s₀ s) : Inv rank s := by
  induction hrun with
  | nil => exact h₀
  | round f x c' _ hjob hf ih => exact cache_inv_preserved depsOf fsok F root rank hdeps hF _ ih f x c' hjob hf
  | cancelled fv _ ih => exact ih
  | gc f _ ih => exact ih
  | commitOld fv _ hfv ih => exact cache_inv_commit_clean depsOf fsok F root rank hdeps _ ih fv hfv

/-- **C26 (partial).** On a clean state, what a reusing compilation yields for a module — the cached
typed module — equals what a compilation from scratch yields, for every per-module semantics `tc`
that depends on the module's own text only. Missing from the full property: `tc` of the real compiler
also reads the modules a file imports, reused modules do not replay their diagnostics, and garbage
collection invalidates declarations that reused modules still refer to (see the module comment). -/
theorem C26_partial {R : Type} (tc : Path → Disk → R) (dflt : R)
    (hloc : ∀ p d₁ d₂, d₁ p = d₂ p → tc p d₁ = tc p d₂)
    (s : St) (hclean : Clean s) (q : Path) (e : Entry) (t : Typed)
    (he : s.cache q = some e) (ht : e.typed = some t) :
    incrementalResult tc dflt s.cache q = compile tc s.disk q := by
  unfold incrementalResult compile
  simp only [he, ht, Option.bind]
  apply hloc
  exact Decidable.byContradiction fun hne => hclean q ⟨e, t, he, ht, hne⟩

/-- The empty server state satisfies the invariant (non-vacuity of `Inv`). -/
example (rank : Path → Nat) : Inv rank ⟨fun _ => 0, fun _ => none, none, 2⟩ where
  clean := by rintro q ⟨e, t, he, _⟩; simp at he
  ver := by intro p e t tv he; simp at he
  ranked := by intro p e he; simp at he

/-! ## Witnesses

Three modules: `0` = root (declares `1` and `2`), `1`, `2`. Texts are numbers; the text of every file is
`0` at the start, versions start at 2 (the open is version 1). Per-module semantics for the witnesses:
the text itself.

For the protocol AS FOUND (`Cache.AsFound`: a `None` version counts as up to date in the parse check, a
parse of another text keeps the typed module) the invariant is false — `found_*`, each replayed on the
real server before the repair (corpus/c26.txt `w1-window`, `w2-save`, `w3-reenter`). For the repaired
protocol the same event sequences are fine — `fixed_*`. What no repair of the protocol can give is
witnessed by `sibling_import_stale`. -/

def wDeps : Path → Content → List Path := fun p _ => if p = 0 then [1, 2] else []
def wInit : St := ⟨fun _ => 0, fun _ => none, none, 2⟩
def wRun : List Event → St := run wDeps hashFs 8 0 wInit
def wRunFound : List Event → St := AsFound.run wDeps 8 0 wInit
def ownText : Path → Disk → Nat := fun p d => d p

/-- W1, the window after a cancelled compilation: edit `1`, its compilation is cancelled, edit `2`, the
compilation of that request commits. `file_versions = {2 ↦ 3}` says `None` for `1`. -/
def wWindowEvents : List Event :=
  [.jobCommit markNone, .edit 1 7, .jobCancelled (mark 1 2), .edit 2 8, .jobCommit (mark 2 3)]

/-- As found: the check accepts the typed module of `1` built from the old text. -/
theorem found_window_stale_accepted :
    tyUpToDate 8 (wRunFound wWindowEvents).cache (mark 2 3) 1 = some true ∧
    incrementalResult ownText 0 (wRunFound wWindowEvents).cache 1 = 0 ∧
    compile ownText (wRunFound wWindowEvents).disk 1 = 7 := by
  decide +kernel

theorem found_window_not_clean : ¬ Clean (wRunFound wWindowEvents) := by
  intro h
  -- on a clean state `C26_partial` would make the two results of `found_window_stale_accepted` equal
  have h3 : (((wRunFound wWindowEvents).cache 1).bind (·.typed)).isSome = true := by decide +kernel
  obtain ⟨t, ht⟩ := Option.isSome_iff_exists.1 h3
  obtain ⟨e, he, ht⟩ := Option.bind_eq_some_iff.1 ht
  have heq := C26_partial ownText 0 (fun _ _ _ h => h) _ h 1 e t he ht
  rw [found_window_stale_accepted.2.1, found_window_stale_accepted.2.2] at heq
  cases heq

/-- Repaired: the parse of the new text of `1` drops its typed module, `1` is type checked again. -/
theorem fixed_window :
    ∀ q ∈ [0, 1, 2], incrementalResult ownText 0 (wRun wWindowEvents).cache q = compile ownText (wRun wWindowEvents).disk q := by
  decide +kernel

/-- W2, save after a cancelled compilation: the request of a save carries no version. -/
def wSaveEvents : List Event := [.jobCommit markNone, .edit 1 7, .jobCancelled (mark 1 2)]

/-- As found: the parse check accepts the root and the whole program of the last commit is reused
although the text of `1` changed. -/
theorem found_save_reuses_stale_program :
    (match AsFound.runJob wDeps 8 0 (wRunFound wSaveEvents) markNone with | .reused => true | .compiled _ => false) = true ∧
    ((wRunFound wSaveEvents).prog.map (fun d => d 1)) = some 0 ∧ (wRunFound wSaveEvents).disk 1 = 7 := by
  decide +kernel

/-- Repaired: without a version the file system decides, the program is compiled again. -/
theorem fixed_save_recompiles :
    (match runJob wDeps hashFs 8 0 (wRun wSaveEvents) markNone with | .reused => false | .compiled _ => true) = true ∧
    ∀ q ∈ [0, 1, 2], incrementalResult ownText 0 (wRun (wSaveEvents ++ [.jobCommit markNone])).cache q
        = compile ownText (wRun (wSaveEvents ++ [.jobCommit markNone])).disk q := by
  decide +kernel

/-- W3, a module leaves the program, is edited, and comes back: text `5` of the root declares no
submodule. The edit of `1` while it is outside is compiled as "nothing changed" (whole-program reuse).
No compilation is cancelled. -/
def rDeps : Path → Content → List Path := fun p x => if p = 0 ∧ x = 0 then [1] else []
def wReenterEvents : List Event :=
  [.jobCommit markNone, .edit 0 5, .jobCommit (mark 0 2), .edit 1 9, .jobCommit (mark 1 3), .edit 0 0, .jobCommit (mark 0 4)]

/-- As found: when the root declares `1` again its typed module from the very first compilation is accepted. -/
theorem found_reenter_stale_accepted :
    incrementalResult ownText 0 (AsFound.run rDeps 8 0 wInit wReenterEvents).cache 1 = 0 ∧
    compile ownText (AsFound.run rDeps 8 0 wInit wReenterEvents).disk 1 = 9 := by
  decide +kernel

theorem fixed_reenter :
    ∀ q ∈ [0, 1], incrementalResult ownText 0 (run rDeps hashFs 8 0 wInit wReenterEvents).cache q
      = compile ownText (run rDeps hashFs 8 0 wInit wReenterEvents).disk q := by
  decide +kernel

/-- W4, the hypothesis of `C26_partial` on the semantics is needed, also after the repairs: module `2`
imports from its sibling `1` (its typed module reads the text of `1`). After an edit of `1`, compiled and
committed, nothing in the cache is stale in the sense of the protocol, yet the reused typed module of `2`
differs from a fresh one. -/
def importing : Path → Disk → Nat := fun p d => if p = 2 then d 1 + d 2 else d p
def wSibling : St := wRun [.jobCommit markNone, .edit 1 7, .jobCommit (mark 1 2)]

theorem sibling_import_stale :
    tyUpToDate 8 wSibling.cache (mark 1 2) 2 = some true ∧
    incrementalResult ownText 0 wSibling.cache 2 = compile ownText wSibling.disk 2 ∧
    incrementalResult importing 0 wSibling.cache 2 = 0 ∧ compile importing wSibling.disk 2 = 7 := by
  decide +kernel

end SwayVerif.C26
