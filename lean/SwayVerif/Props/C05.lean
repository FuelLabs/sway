import SwayVerif.Lemmas.IrText
/-!
# C05 — IR text round-trips (kernels)

The property quantifies over whole IR modules at every pipeline stage. What is PROVED here (for all
inputs, no bounds) is the round trip of the constant / type / string-literal kernels of the text format
(`Model/IrText.lean` = `as_lit_string`, `Type::as_string`, the peg rules `ast_ty`, `constant_value`,
`str_char`, … and the conversions `as_constant` / `as_value`). The whole-module statement
(`print → parse` succeeds, the result verifies, re-prints to the same text and compiles to code that
behaves identically) is decided per module by the validator run of `checks/c05.py` on the REAL printer,
parser, verifier, backend and VM — see `C05_partial`.
-/
namespace SwayVerif.C05
open SwayVerif.IrText

/-- String constants: for ALL byte strings, un-escaping the printed escape sequence gives the bytes back
(`\xHH` for everything outside printable ASCII and for `"` and `\`). -/
theorem str_escape_roundtrip (bs : List UInt8) :
    unescape (escape (bs.map (·.toNat))) = some (bs.map (·.toNat)) :=
  unescape_escape _ (bytesOk_map bs)

/-- The same over the model's byte representation (`Nat`s below 256). -/
theorem str_escape_roundtrip_nat (bs : List Nat) (h : bytesOk bs = true) : unescape (escape bs) = some bs :=
  unescape_escape bs h

/-- Types: every type inside the grammar's domain `tyOk` (no `str` slice type, integer widths 8/64/256,
non-empty unions, lengths below 2^64) parses back to itself from its printed form. -/
theorem ty_roundtrip (t : Ty) (h : tyOk t = true) : parseTy (printTy t) = .ok t :=
  parseTy_printTy t h

/-- Constants in initialiser position (`global … = const <lit>`, `local … = const <lit>`, conversion
`as_constant`): every `printable` constant parses back to itself. -/
theorem const_roundtrip (c : Const) (h : printable c = true) : parseConst (printConst c) = .ok c :=
  parseConst_print c h

/-- Constants in operand position (`vN = const <lit>`, conversion `as_value`). -/
theorem const_roundtrip_top (c : Const) (h : printableTop c = true) : parseConstTop (printConst c) = .ok c :=
  parseConstTop_print c h

/-- The property predicate the driver evaluates on the REAL parser's answer holds whenever that answer is
what the model computes — i.e. a `prop=0` on a printable constant is a disagreement between the real
code and the proved model, never an artefact of the predicate. -/
theorem C05_prop_of_model (top : Bool) (c : Const) :
    propConst top c (if top then parseConstTop (printConst c) else parseConst (printConst c)) = true := by
  unfold propConst
  cases top with
  | true =>
    by_cases h : printableTop c = true
    · simp [h, const_roundtrip_top c h, Const.beq_refl]
    · simp [h]
  | false =>
    by_cases h : printable c = true
    · simp [h, const_roundtrip c h, Const.beq_refl]
    · simp [h]

/-! ## `not_printable_witness`: constants outside `printable` really do not round-trip -/

/-- the empty array `[u64; 0] []`: `array_const` demands at least one element -/
theorem not_printable_witness_empty_array :
    (parseConst (printConst (.arr (.arr (.uint 64) 0) .nil))).isErr = true := by decide +kernel

/-- a reference constant `&(u64 5)` -/
theorem not_printable_witness_reference :
    (parseConst (printConst (.ref (.tptr (.uint 64)) (.uint (.uint 64) 5)))).isErr = true := by decide +kernel

/-- a typed slice constant -/
theorem not_printable_witness_typed_slice :
    PR.isOk (.slice (.tslice (.uint 64)) (.cons (.uint (.uint 64) 5) .nil))
      (parseConst (printConst (.slice (.tslice (.uint 64)) (.cons (.uint (.uint 64) 5) .nil)))) = false := by decide +kernel

/-- a raw untyped slice that is not 32 bytes long (IR-gen emits these for contract-call method names) -/
theorem not_printable_witness_raw_slice :
    (parseConst (printConst (.raw .slice [1, 2, 3]))).isErr = true := by decide +kernel

/-- a raw untyped slice of exactly 32 bytes reaches `unreachable!("invalid type for hex number")` -/
theorem not_printable_witness_raw_slice32 :
    (parseConst (printConst (.raw .slice (List.replicate 32 7)))).isPanic = true := by decide +kernel

/-- `u16`/`u32` typed integers (IR-gen maps both to u64, so these never occur) -/
theorem not_printable_witness_u16 : (parseConst (printConst (.uint (.uint 16) 5))).isErr = true := by decide +kernel

/-- a bare `undef` initialiser -/
theorem not_printable_witness_undef : (parseConst (printConst (.undef (.uint 64)))).isErr = true := by decide +kernel

/-- array elements of different types: every element is re-typed with the FIRST element's type -/
theorem not_printable_witness_mixed_array :
    PR.isOk (.arr (.arr (.union (.cons (.uint 64) (.cons .bool .nil))) 2)
        (.cons (.uint (.uint 64) 1) (.cons (.bool (.uint 64) true) .nil)))
      (parseConst (printConst (.arr (.arr (.union (.cons (.uint 64) (.cons .bool .nil))) 2)
        (.cons (.uint (.uint 64) 1) (.cons (.bool .bool true) .nil))))) = true := by decide +kernel

/-! ## non-vacuity -/

example : printable (.struct (.struct (.cons (.uint 64) (.cons (.strArr 2) .nil)))
    (.cons (.uint (.uint 64) 7) (.cons (.str (.strArr 2) [34, 255]) .nil))) = true := by decide +kernel
example : printableTop (.str (.strArr 3) [34, 92, 255]) = true := by decide +kernel
example : tyOk (.arr (.union (.cons .unit (.cons (.tptr .b256) .nil))) 3) = true := by decide +kernel

/-- **C05 (partial).** Proved: the kernel round trips above, for all constants / types / byte strings
of the model. NOT proved (no model): instructions, blocks, metadata, names, configurables, asm blocks,
storage keys — the whole-module statement of the property. That part is validated per module by
`sv_c05 --mode modules` (translation validation on the real code at every pipeline stage); the kernel
model is tied to the real printer/parser by `sv_c05 --mode kernel`. -/
theorem C05_partial :
    (∀ bs : List UInt8, unescape (escape (bs.map (·.toNat))) = some (bs.map (·.toNat))) ∧
    (∀ t, tyOk t = true → parseTy (printTy t) = .ok t) ∧
    (∀ c, printable c = true → parseConst (printConst c) = .ok c) ∧
    (∀ c, printableTop c = true → parseConstTop (printConst c) = .ok c) :=
  ⟨str_escape_roundtrip, ty_roundtrip, const_roundtrip, const_roundtrip_top⟩

end SwayVerif.C05
