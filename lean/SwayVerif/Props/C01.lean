import SwayVerif.Model.SwaySem
import SwayVerif.Lemmas.SwaySem
/-!
# C01 — compiled scripts compute what the Sway semantics prescribe

`Model/SwaySem.lean` is the reference semantics ("what the Sway semantics prescribe"): a definitional interpreter
whose arithmetic is the `sway-lib-std/src/ops.sw` recipe over a model of the FuelVM ALU. Proved here: the documented
arithmetic rules as theorems about that recipe (`arith_*_spec`, every width including the `u8/u16/u32` range checks
and 256 bits), that an out-of-bounds dynamic index is a prescribed revert, that a well-typed expression of the closed
scalar fragment never gets stuck, and that more fuel never changes a finished outcome, so "the outcome of `p`" is
well defined.

Compiler correctness itself is NOT proved: see `C01_partial`.
-/
namespace SwayVerif.C01
open SwayVerif.SwaySem

theorem max_u8 : W.max .u8 = 255 := by decide
theorem max_u16 : W.max .u16 = 65535 := by decide
theorem max_u32 : W.max .u32 = 4294967295 := by decide
theorem max_u64 : W.max .u64 = 18446744073709551615 := by decide
theorem max_u256 : W.max .u256 = 115792089237316195423570985008687907853269984665640564039457584007913129639935 := by
  simp [W.max, W.bits]
theorem word_eq : word = 18446744073709551616 := by decide
theorem wide_eq : wide = 115792089237316195423570985008687907853269984665640564039457584007913129639936 := by
  simp [wide]

theorem rangeCheck_eq (w : W) (r : Nat) : rangeCheck w r = if r ≤ w.max then some r else none := by
  by_cases h : r ≤ w.max
  · simp [rangeCheck, vmGt, h, Nat.not_lt.mpr h]
  · simp [rangeCheck, vmGt, h, Nat.lt_of_not_le h]

/-- An operation that panics from `N` on succeeds exactly up to `N - 1`. -/
theorem checked_le {N : Nat} (hN : 0 < N) (r : Nat) :
    (if r < N then some r else none) = if r ≤ N - 1 then some r else none := by
  simp only [Nat.lt_iff_le_pred hN]

/-- A 64-bit operation followed by the range check of a narrower type is one comparison with that type's maximum. -/
theorem checked_range (w : W) (hw : w.max < word) (r : Nat) :
    (if r < word then some r else none).bind (rangeCheck w) = if r ≤ w.max then some r else none := by
  by_cases h : r < word
  · rw [if_pos h]; exact rangeCheck_eq w r
  · rw [if_neg h, if_neg fun hr => h (Nat.lt_of_le_of_lt hr hw)]; rfl

/-- `+` needs no bound on the operands: whether the exact sum fits the type decides alone. -/
theorem evalAdd_eq (w : W) (a b : Nat) : evalAdd w a b = if a + b ≤ w.max then some (a + b) else none := by
  cases w with
  | u64 => exact checked_le (N := word) (by decide) _
  | u256 => exact checked_le (N := wide) (Nat.two_pow_pos 256) _
  | _ => exact checked_range _ (by decide) _

set_option linter.unusedVariables false in
/-- `a + b` on `uN`: the sum when it fits, a revert otherwise. -/
theorem arith_add_spec (w : W) (a b : Nat) (ha : a ≤ w.max) (hb : b ≤ w.max) :
    evalAdd w a b = if a + b ≤ w.max then some (a + b) else none :=
  evalAdd_eq w a b

/-- `a - b` on `uN`: the difference when `b ≤ a`, a revert (underflow) otherwise. -/
theorem arith_sub_spec (w : W) (a b : Nat) (ha : a ≤ w.max) :
    evalSub w a b = if b ≤ a then some (a - b) else none := by
  have narrow : (vmSub a b).bind (rangeCheck w) = if b ≤ a then some (a - b) else none := by
    by_cases h : b ≤ a
    · simp [vmSub, h, rangeCheck_eq, Nat.le_trans (Nat.sub_le a b) ha]
    · simp [vmSub, h]
  cases w with
  | u64 => rfl
  | u256 => rfl
  | _ => exact narrow

/-- `*` needs no bound on the operands either. -/
theorem evalMul_eq (w : W) (a b : Nat) : evalMul w a b = if a * b ≤ w.max then some (a * b) else none := by
  cases w with
  | u64 => exact checked_le (N := word) (by decide) _
  | u256 => exact checked_le (N := wide) (Nat.two_pow_pos 256) _
  | _ => exact checked_range _ (by decide) _

set_option linter.unusedVariables false in
/-- `a * b` on `uN`: the product when it fits, a revert otherwise. -/
theorem arith_mul_spec (w : W) (a b : Nat) (ha : a ≤ w.max) (hb : b ≤ w.max) :
    evalMul w a b = if a * b ≤ w.max then some (a * b) else none :=
  evalMul_eq w a b

/-- `a / b`: the quotient, a revert when the divisor is zero. -/
theorem arith_div_spec (w : W) (a b : Nat) : evalDiv w a b = if b = 0 then none else some (a / b) := by
  cases w <;> rfl

/-- `a % b`: the remainder, a revert when the divisor is zero. -/
theorem arith_mod_spec (w : W) (a b : Nat) : evalMod w a b = if b = 0 then none else some (a % b) := by
  cases w <;> rfl

theorem div_mod_zero_reverts (w : W) (a : Nat) : evalBin .div w a 0 = none ∧ evalBin .mod w a 0 = none := by
  simp [evalBin, arith_div_spec, arith_mod_spec]

/-- The VM's left shift (`n` = 64 or 256): the guard `s < n` only spells out that `a·2^s` is a multiple of `2^n`
from there on. -/
theorem shl_full (a s n : Nat) : (if s < n then (a <<< s) % 2 ^ n else 0) = a * 2 ^ s % 2 ^ n := by
  by_cases h : s < n
  · rw [if_pos h, Nat.shiftLeft_eq]
  · rw [if_neg h]
    have : 2 ^ n ∣ a * 2 ^ s := Nat.dvd_trans (Nat.pow_dvd_pow 2 (Nat.le_of_not_lt h)) (Nat.dvd_mul_left _ _)
    exact (Nat.mod_eq_zero_of_dvd this).symm

theorem shl_narrow (a s k : Nat) (hk : k ≤ 64) : vmAnd (vmSll a s) (2 ^ k - 1) = a * 2 ^ s % 2 ^ k := by
  simp only [vmAnd, vmSll, word, Nat.and_two_pow_sub_one_eq_mod, shl_full]
  exact Nat.mod_mod_of_dvd _ (Nat.pow_dvd_pow 2 hk)

/-- `a << s` on `uN`: the low `N` bits of `a·2^s` (0 once `s ≥ N`); never reverts. -/
theorem arith_shl_spec (w : W) (a s : Nat) : evalShl w a s = a * 2 ^ s % 2 ^ w.bits := by
  cases w with
  | u64 => exact shl_full a s 64
  | u256 => exact shl_full a s 256
  | _ => exact shl_narrow a s _ (by decide)

/-- The VM's right shift (`n` = 64 or 256): the guard `s < n` only spells out that `a / 2^s` is 0 from there on. -/
theorem shr_full (a s n : Nat) (ha : a < 2 ^ n) : (if s < n then a >>> s else 0) = a / 2 ^ s := by
  by_cases h : s < n
  · rw [if_pos h, Nat.shiftRight_eq_div_pow]
  · rw [if_neg h]
    have : 2 ^ n ≤ 2 ^ s := Nat.pow_le_pow_right (by decide) (Nat.le_of_not_lt h)
    exact (Nat.div_eq_of_lt (Nat.lt_of_lt_of_le ha this)).symm

theorem lt_two_pow_of_le_max {w : W} {a n : Nat} (ha : a ≤ w.max) (hn : w.bits ≤ n) : a < 2 ^ n := by
  have h1 := Nat.two_pow_pos w.bits
  have h2 : 2 ^ w.bits ≤ 2 ^ n := Nat.pow_le_pow_right (by decide) hn
  unfold W.max at ha
  omega

/-- `a >> s` on `uN`: `a / 2^s` (0 once `s ≥ N`); never reverts. -/
theorem arith_shr_spec (w : W) (a s : Nat) (ha : a ≤ w.max) : evalShr w a s = a / 2 ^ s := by
  cases w with
  | u256 => exact shr_full a s 256 (lt_two_pow_of_le_max ha (Nat.le_refl _))
  | _ => exact shr_full a s 64 (lt_two_pow_of_le_max ha (by decide))

/-- The low `k` bits of a complement in `k + d` bits: `2^(k+d) - 1 - a = 2^k·q + (2^k - 1 - a)` with `q = 2^d - 1`. -/
theorem mod_compl (a k d : Nat) (ha : a ≤ 2 ^ k - 1) : (2 ^ (k + d) - 1 - a) % 2 ^ k = 2 ^ k - 1 - a := by
  have hp : 1 ≤ 2 ^ k := Nat.two_pow_pos k
  obtain ⟨q, hq⟩ : ∃ q, 2 ^ d = q + 1 := ⟨2 ^ d - 1, (Nat.sub_add_cancel (Nat.two_pow_pos d)).symm⟩
  rw [Nat.pow_add, hq, Nat.mul_succ, Nat.add_sub_assoc hp, Nat.add_sub_assoc ha, Nat.mul_add_mod]
  exact Nat.mod_eq_of_lt (Nat.lt_of_le_of_lt (Nat.sub_le _ _) (Nat.sub_lt hp Nat.one_pos))

theorem not_narrow (a k : Nat) (hk : k ≤ 64) (ha : a ≤ 2 ^ k - 1) :
    vmAnd (vmNot a) (2 ^ k - 1) = 2 ^ k - 1 - a := by
  have := mod_compl a k (64 - k) ha
  rwa [Nat.add_sub_cancel' hk, ← Nat.and_two_pow_sub_one_eq_mod] at this

/-- `!a` on `uN`: the bitwise complement within `N` bits. -/
theorem arith_not_spec (w : W) (a : Nat) (ha : a ≤ w.max) : evalNot w a = w.max - a := by
  cases w with
  | u64 => rfl
  | u256 => rfl
  | _ => exact not_narrow a _ (by decide) ha

/-- the results of the arithmetic recipes stay inside the operand width -/
theorem arith_result_in_range (op : BinOp) (w : W) (a b r : Nat) (ha : a ≤ w.max) (hb : b ≤ w.max)
    (hop : op = .add ∨ op = .sub ∨ op = .mul ∨ op = .div ∨ op = .mod) (h : evalBin op w a b = some r) : r ≤ w.max := by
  rcases hop with rfl | rfl | rfl | rfl | rfl
  · obtain ⟨hr, hs⟩ := Option.ite_none_right_eq_some.1 ((arith_add_spec w a b ha hb).symm.trans h)
    cases hs; exact hr
  · obtain ⟨_, hs⟩ := Option.ite_none_right_eq_some.1 ((arith_sub_spec w a b ha).symm.trans h)
    cases hs; exact Nat.le_trans (Nat.sub_le a b) ha
  · obtain ⟨hr, hs⟩ := Option.ite_none_right_eq_some.1 ((arith_mul_spec w a b ha hb).symm.trans h)
    cases hs; exact hr
  · obtain ⟨_, hs⟩ := Option.ite_none_left_eq_some.1 ((arith_div_spec w a b).symm.trans h)
    cases hs; exact Nat.le_trans (Nat.div_le_self a b) ha
  · obtain ⟨_, hs⟩ := Option.ite_none_left_eq_some.1 ((arith_mod_spec w a b).symm.trans h)
    cases hs; exact Nat.le_trans (Nat.mod_le a b) ha

/-- An out-of-bounds run-time array index is a prescribed revert (`Fail.oob`), whatever the logs so far. -/
theorem index_oob_reverts (vs : List Val) (n : Nat) (s : St) (h : vs.length ≤ n) :
    idxVal (.tup vs) (.int .u64 n) s = .fail .oob s.logs := by
  dsimp only [idxVal, failS]
  have : vs[n]? = none := List.getElem?_eq_none h
  rw [this]

/-- an in-bounds index selects the element and changes nothing else -/
theorem index_inbounds (vs : List Val) (n : Nat) (s : St) (h : n < vs.length) :
    idxVal (.tup vs) (.int .u64 n) s = .ok vs[n] s := by
  dsimp only [idxVal]
  rw [List.getElem?_eq_getElem h]

/-- The semantics is a function of the program and the fuel: trivially deterministic (stated because the
property speaks of "the" prescribed value). -/
theorem eval_deterministic (p : Prog) (fuel : Nat) (o₁ o₂ : Outcome)
    (h₁ : run p fuel = o₁) (h₂ : run p fuel = o₂) : o₁ = o₂ := h₁ ▸ h₂

/-- More fuel never changes a finished outcome (anything but `outOfFuel`), also for the lenient runs. -/
theorem eval_fuel_mono_skip (p : Prog) (k n m : Nat) (o : Outcome) (h : runSkip p n k = o)
    (hf : o.finished = true) (hnm : n ≤ m) : runSkip p m k = o := by
  subst h
  unfold runSkip at hf ⊢
  rcases (evals_mono p.fns n m hnm).b p.main { env := [], logs := [], skip := k } with hoof | heq
  · rw [hoof] at hf; cases hf
  · rw [heq]

/-- More fuel never changes a finished outcome of the prescriptive semantics. -/
theorem eval_fuel_mono (p : Prog) (n m : Nat) (o : Outcome) (h : run p n = o)
    (hf : o.finished = true) (hnm : n ≤ m) : run p m = o :=
  eval_fuel_mono_skip p 0 n m o h hf hnm

/-- two finished outcomes of the same program at any two fuel levels coincide: "the" outcome is well defined -/
theorem eval_outcome_unique (p : Prog) (n m : Nat) (hn : (run p n).finished = true) (hm : (run p m).finished = true) :
    run p n = run p m := by
  rcases Nat.le_total n m with h | h
  · exact (eval_fuel_mono p n m _ rfl hn h).symm
  · exact eval_fuel_mono p m n _ rfl hm h

/-- non-vacuity: a program that logs `250u8 + 5u8`, then reverts on `250u8 + 6u8` -/
example : run { fns := [], main := [.log (.bin .add (.lit .u8 250) (.lit .u8 5)),
                                    .log (.bin .add (.lit .u8 250) (.lit .u8 6))] } 10
    = .revert 0 [[255]] := by decide

/-- **Well-typed programs do not get stuck — partial.** For the *closed scalar sub-fragment* (literals in range,
`+ - * / % << >> & | ^ !`, comparisons, `&& || !`, widening casts, typed by `SwaySem.tyE`) evaluation at any fuel
yields a value of the expression's type with state and logs unchanged, an arithmetic revert (`revert 0`, logs
unchanged), or runs out of fuel — never `stuck`, `unsupported`, `oob`, nor a stray control signal. So in this
fragment the semantics prescribes a revert exactly in the cases `arith_*_spec` enumerate.
PARTIAL: variables, aggregates, control flow, calls are outside the typed fragment (for them `stuck` is ruled out
only per program, by the driver: a `stuck` answer of the model is reported as a disagreement). -/
theorem welltyped_no_stuck_partial (fns : List Fn) (n : Nat) (e : Expr) (t : STy) (s : St)
    (hs : s.skip = 0) (ht : tyE e = some t) :
    GoodRes s t ((evals fns n).e e s) ∧
    (∀ l, (evals fns n).e e s ≠ .fail .stuck l) ∧ (∀ l, (evals fns n).e e s ≠ .fail .unsupported l) := by
  have h := scalar_good fns n e t s hs ht
  refine ⟨h, fun l hl => ?_, fun l hl => ?_⟩ <;> rw [hl] at h <;> exact h

/-- non-vacuity: `(250u8 + 5u8) < 7u8 << 1` is in the typed fragment -/
example : tyE (.cmp .lt (.bin .add (.lit .u8 250) (.lit .u8 5)) (.bin .shl (.lit .u8 7) (.lit .u64 1))) = some .bool := by
  decide

/-- **C01, partial.** What is proved: the reference semantics is well defined (fuel-independent once finished)
and its arithmetic obeys the documented rules for every width and all operands.
What is NOT proved: that the bytecode `forc` produces computes `SwaySem.run` — the 110k-line compiler is not
modelled. That half of C01 is *validated per program* (translation validation): `sv_c01` generates well-typed
programs of the fragment, builds each with the real compiler in the debug and the release profile, runs both on
the real FuelVM, and `Driver/C01.lean` compares return/revert status, revert code and every logged payload with
`SwaySem.run` of the same AST. -/
theorem C01_partial :
    (∀ (p : Prog) (n m : Nat), (run p n).finished = true → n ≤ m → run p m = run p n) ∧
    (∀ (w : W) (a b : Nat), a ≤ w.max → b ≤ w.max →
      evalBin .add w a b = (if a + b ≤ w.max then some (a + b) else none) ∧
      evalBin .sub w a b = (if b ≤ a then some (a - b) else none) ∧
      evalBin .mul w a b = (if a * b ≤ w.max then some (a * b) else none) ∧
      evalBin .div w a b = (if b = 0 then none else some (a / b)) ∧
      evalBin .mod w a b = (if b = 0 then none else some (a % b)) ∧
      evalNot w a = w.max - a ∧
      (∀ s, evalBin .shl w a s = some (a * 2 ^ s % 2 ^ w.bits) ∧ evalBin .shr w a s = some (a / 2 ^ s))) :=
  ⟨fun p n m hf h => eval_fuel_mono p n m _ rfl hf h, fun w a b ha hb =>
    ⟨arith_add_spec w a b ha hb, arith_sub_spec w a b ha, arith_mul_spec w a b ha hb, arith_div_spec w a b,
      arith_mod_spec w a b, arith_not_spec w a ha,
      fun s => ⟨congrArg some (arith_shl_spec w a s), congrArg some (arith_shr_spec w a s ha)⟩⟩⟩

end SwayVerif.C01
