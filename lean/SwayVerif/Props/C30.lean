import SwayVerif.Model.Fetch
import SwayVerif.Model.Proc
import SwayVerif.Lemmas.Fetch
import SwayVerif.Generated.FetchSteps
/-!
# C30 — Dependency fetching is crash-safe

"For every crash or I/O failure point while fetching a git dependency into the forc cache, a later build
either finds the complete checkout of the pinned commit or fetches it again. It never compiles against a
partially written checkout."

Model: `SwayVerif/Model/Fetch.lean` (`progFixed n` = the code after the `fix:` commit, `progOrig n` = the
code before it). All theorems are for ANY number `n` of files in the commit, any positions `m`/`e` of the
manifest and the entry file among them, any step number `p`, both failure kinds, and every listed
intermediate state of the failing step.
-/
namespace SwayVerif.C30
open SwayVerif.Fetch SwayVerif.Proc

/-! ### the program before the rename -/

theorem fixedBeforePublish_split (n : Nat) :
    fixedBeforePublish n =
      (pinPhase ++ fetchEntry ++ tmpRepoPrologue 1 ++ fixedClosurePre) ++
      (checkoutLoop .stage n ++ ([.point .checkoutProgress n, .checkoutEnd] ++ fixedClosureMid)) := by
  simp [fixedBeforePublish, checkoutFiles, List.append_assoc]

theorem keepsAbsent_of_all (l : List Op) (h : l.all keepsAbsent = true) :
    ∀ op ∈ l, keepsAbsent op = true := by
  simpa [List.all_eq_true] using h

theorem keepsAbsent_fixedBeforePublish (n : Nat) : ∀ op ∈ fixedBeforePublish n, keepsAbsent op = true := by
  intro op h
  rw [fixedBeforePublish_split] at h
  rcases List.mem_append.mp h with h | h
  · exact keepsAbsent_of_all _ (by decide) op h
  · rcases List.mem_append.mp h with h | h
    · rcases mem_checkoutLoop _ _ _ h with ⟨i, rfl⟩ | ⟨i, rfl⟩ <;> rfl
    · rcases List.mem_append.mp h with h | h
      · simp only [List.mem_cons, List.mem_nil_iff, or_false] at h
        rcases h with rfl | rfl <;> rfl
      · exact keepsAbsent_of_all _ (by decide) op h

/-- Right before the rename the staging directory holds the complete checkout with its marker, whatever
the number of files. -/
theorem state_before_publish (n : Nat) :
    run n (fixedBeforePublish n) init = ⟨Tree.gone, Tree.full n, true, true⟩ := by
  rw [fixedBeforePublish_split, run_append, run_append]
  have h1 : run n (pinPhase ++ fetchEntry ++ tmpRepoPrologue 1 ++ fixedClosurePre) init =
      ⟨Tree.gone, Tree.fresh n, true, true⟩ := rfl
  rw [h1, run_checkoutLoop_stage n n 0 (by omega) _ rfl, List.replicate_zero, List.append_nil]
  rfl

/-- Everything a failure can leave (before the `?` unwinding): `final` is absent or complete. -/
theorem fixed_final_cases (n : Nat) :
    ∀ u ∈ failStatesFrom n (progFixed n) init, u.final = Tree.gone ∨ u.final = Tree.full n := by
  have h := publish_final_cases n (fixedBeforePublish n) fixedAfterPublish init rfl
    (keepsAbsent_fixedBeforePublish n) (by decide)
  rwa [state_before_publish] at h

theorem C30_final_gone_or_full (n p : Nat) (k : Kind) (t : St)
    (h : t ∈ failStates n (progFixed n) init p k) : t.final = Tree.gone ∨ t.final = Tree.full n := by
  obtain ⟨u, hu, rfl⟩ := mem_failStates n _ _ p k t h
  rw [settle_final]
  exact fixed_final_cases n u hu

theorem nextBuild_of_final (n m e : Nat) (hm : m < n) (he : e < n) (s : St)
    (h : s.final = Tree.gone ∨ s.final = Tree.full n) :
    nextBuild n m e s = .refetch ∨ nextBuild n m e s = .complete := by
  rcases h with h | h
  · left
    simp [nextBuild, needsFetch, h, Tree.gone]
  · right
    simp [nextBuild, needsFetch, usable, h, Tree.full, hm, he]

/-- **C30.** After a crash or an I/O error in ANY step `p` of fetching a git dependency (any number `n`
of files, any half-done state of the failing step), a later build either fetches again or builds on the
complete checkout of the pinned commit. -/
theorem C30_safe (n m e : Nat) (hm : m < n) (he : e < n) (p : Nat) (k : Kind) (t : St)
    (h : t ∈ failStates n (progFixed n) init p k) :
    nextBuild n m e t = .refetch ∨ nextBuild n m e t = .complete :=
  nextBuild_of_final n m e hm he t (C30_final_gone_or_full n p k t h)

/-- … in particular it never builds on a partially written checkout, and it does not get stuck in an
error either. -/
theorem C30_never_partial (n m e : Nat) (hm : m < n) (he : e < n) (p : Nat) (k : Kind) (t : St)
    (h : t ∈ failStates n (progFixed n) init p k) :
    nextBuild n m e t ≠ .usesPartial ∧ nextBuild n m e t ≠ .error := by
  rcases C30_safe n m e hm he p k t h with h' | h' <;> rw [h'] <;> exact ⟨by decide, by decide⟩

/-- "fetches it again" ends well: an undisturbed fetch leaves the complete checkout and no litter. -/
theorem C30_refetch_completes (n : Nat) :
    run n (progFixed n) init = ⟨Tree.full n, Tree.gone, false, false⟩ := by
  unfold progFixed
  rw [run_append, state_before_publish]
  rfl

/-- Any history of failed (or successful) fetch attempts, each in a new process that fetches only when
`final` does not exist. -/
def attempts (n : Nat) : TS St where
  init := fun s => s = init
  step := fun s t => needsFetch s = true ∧
    ((∃ p k u, u ∈ failStates n (progFixed n) (restart s) p k ∧ t = restart u) ∨
      t = restart (run n (progFixed n) (restart s)))

theorem C30_safe_history (n m e : Nat) (hm : m < n) (he : e < n) :
    ∀ s, Reachable (attempts n) s → nextBuild n m e s = .refetch ∨ nextBuild n m e s = .complete := by
  intro s hs
  apply nextBuild_of_final n m e hm he
  refine inv_of_step (attempts n) (fun s => s.final = Tree.gone ∨ s.final = Tree.full n) ?_ ?_ s hs
  · intro s h
    exact .inl (by rw [h]; rfl)
  · intro s t _ hinv hstep
    obtain ⟨hneed, hcase⟩ := hstep
    have hgone : s.final = Tree.gone := by
      rcases hinv with h | h
      · exact h
      · simp [needsFetch, h, Tree.full] at hneed
    have hre : restart s = init := by simp [restart, init, hgone]
    rcases hcase with ⟨p, k, u, hu, rfl⟩ | rfl
    · rw [hre] at hu
      exact C30_final_gone_or_full n p k u hu
    · rw [hre, C30_refetch_completes]
      exact .inr rfl

/-- The states the driver computes for the injected faults are among the quantified failure states. -/
theorem C30_faultState_mem (n : Nat) (prog : List Op) (name : String) (k : Kind) (t : St)
    (h : faultState n prog name k = some t) : ∃ p, t ∈ failStates n prog init p k := by
  unfold faultState at h
  split at h
  · simp at h
  · next p j _ => exact ⟨p, List.mem_of_getElem? h⟩

/-- The order of file-system steps, fault points and linking calls in the source text of
`with_tmp_git_repo`, `fetch`, `<Pinned as Fetch>::fetch` and `pin` (regenerated from /repo by
`gen/fetch_steps.py` on every run) is the one of the model's programs; the staging directory lies inside
the temporary clone (token 25) and no unmodelled `fs::` call occurs (it would be token 999). -/
theorem C30_code_shape :
    Generated.FetchSteps.withTmpRepo = shapeWithTmpRepo ∧
    Generated.FetchSteps.fetchFn = shapeFetchFn ∧
    Generated.FetchSteps.pinnedFetch = shapePinnedFetch ∧
    Generated.FetchSteps.pinFn = shapePinFn ∧
    Generated.FetchSteps.stagingDirIsCheckout = true := by decide +kernel

/-! ### the code before the fix violates the property (negation witnesses, replayed on the real code) -/

/-- 3 files, manifest first, entry second: a crash after the second blob (fault point
`checkout_progress#2`, step 31 of `progOrig 3`) leaves `final = cca.a`, and the next build USES it. -/
theorem C30_orig_uses_partial :
    ∃ p t, t ∈ failStates 3 (progOrig 3) init p .crash ∧ nextBuild 3 0 1 t = .usesPartial :=
  ⟨31, run 3 ((progOrig 3).take 31) init, by decide +kernel, by decide +kernel⟩

/-- … and a crash right after `create_dir_all(path)` makes every later build fail. -/
theorem C30_orig_stuck :
    ∃ p t, t ∈ failStates 3 (progOrig 3) init p .crash ∧ nextBuild 3 0 1 t = .error :=
  ⟨26, run 3 ((progOrig 3).take 26) init, by decide +kernel, by decide +kernel⟩

/-! ### non-vacuity -/

/-- the hypothesis of `C30_safe` is inhabited, with both outcomes occurring -/
example : ∃ t ∈ failStates 3 (progFixed 3) init 27 .crash, nextBuild 3 0 1 t = .refetch :=
  ⟨_, List.mem_cons_self, by decide +kernel⟩

example : ∃ t ∈ failStates 3 (progFixed 3) init 41 .err, nextBuild 3 0 1 t = .complete :=
  ⟨run 3 ((progFixed 3).take 41) init |> onError, by decide +kernel, by decide +kernel⟩

/-- the history system makes progress: a failed attempt is a step -/
example : Reachable (attempts 2) (restart (run 2 ((progFixed 2).take 20) init)) :=
  .step (.init rfl) ⟨rfl, .inl ⟨20, .crash, _, List.mem_cons_self, rfl⟩⟩

end SwayVerif.C30
