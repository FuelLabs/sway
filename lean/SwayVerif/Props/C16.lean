import SwayVerif.Model.Lexer
import SwayVerif.Lemmas.LexerMain
/-!
# C16 — Lexer and parser never crash and report in-bounds spans

Model: `SwayVerif/Model/Lexer.lean` = `lex_commented(handler, src, 0, src.text.len(), _)` of `sway-parse/src/token.rs`
at byte-offset level, for ALL texts and ALL assignments of the Unicode character classes (whitespace, XID_Start,
XID_Continue, bidi format) to characters.

`Span::new(..).unwrap()` panics exactly when `validSpan` is false; the model records every span/slice the lexer
constructs. The lexer part of C16 is proved (`lex_total`, `lex_no_panic`, `lex_spans_*`); the parser
(`Parser::parse_to_end`) is NOT modelled — see `C16_partial`.
-/
namespace SwayVerif.C16
open SwayVerif.Lexer

/-- The lexer terminates: the fuel `text.length + 1` handed to the main loop (and from there to the string-literal
loop) is never exhausted, i.e. the model never answers `unsupported`. -/
theorem lex_total (text : List CC) : (lexRaw text).fuelOut = false ∧ lex text ≠ .unsupported := by
  refine ⟨(lexRaw_ok text).fuelOut, ?_⟩
  rw [lex_eq]
  split <;> simp

/-- No construction of a `Span` (`Span::new(..).unwrap()`), no slice `&src.text[a..b]`, no `unwrap` of an empty
`Vec`, no `usize` underflow and no `char::from_u32(..).unwrap()` in `lex_commented` panics, for any input. -/
theorem lex_no_panic (text : List CC) : (lexRaw text).panics text = false ∧ lex text ≠ .panic := by
  refine ⟨(lexRaw_ok text).panics_eq, ?_⟩
  rw [lex_eq]
  split <;> simp

/-- The lexer ends with a token stream or with diagnostics (`Err(ErrorEmitted)`), never anything else. -/
theorem lex_outcome (text : List CC) :
    lex text = .ok (lexRaw text).toks (lexRaw text).errs ∨ lex text = .fail (lexRaw text).errs := by
  rw [lex_eq]
  split
  · exact .inr rfl
  · exact .inl rfl

theorem lex_spans_valid (text : List CC) : ∀ sp ∈ (lex text).spans, SpanOK text sp.1 sp.2 := by
  have ok := lexRaw_ok text
  rw [lex_eq]
  split
  · exact List.forall_mem_map.2 ok.errs
  · exact List.forall_mem_append.2 ⟨List.forall_mem_map.2 ok.toks, List.forall_mem_map.2 ok.errs⟩

/-- Every token span and every lexer-diagnostic span has `start ≤ end ≤ text.len()` (bytes). -/
theorem lex_spans_in_bounds (text : List CC) : ∀ sp ∈ (lex text).spans, sp.1 ≤ sp.2 ∧ sp.2 ≤ blen text := by
  intro sp hsp
  have := lex_spans_valid text sp hsp
  exact ⟨this.2.2, this.2.1.le_len⟩

/-- … and both ends are UTF-8 character boundaries (`str::is_char_boundary`). -/
theorem lex_spans_on_char_boundaries (text : List CC) :
    ∀ sp ∈ (lex text).spans, isBoundary text sp.1 = true ∧ isBoundary text sp.2 = true := by
  intro sp hsp
  have := lex_spans_valid text sp hsp
  exact ⟨(isBoundary_iff _ _).2 this.1, (isBoundary_iff _ _).2 this.2.1⟩

/-- The flattened token stream (group = `open`, children, `close`) is increasing and non-overlapping: every token
ends before every later token starts. In particular top-level token trees do not overlap and groups nest properly. -/
theorem lex_spans_ordered (text : List CC) (toks : List Token) (errs : List LexErr) (h : lex text = .ok toks errs) :
    toks.Pairwise (fun a b => a.stop ≤ b.start) := by
  rcases lex_outcome text with h' | h' <;> rw [h'] at h
  · cases h; exact (lexRaw_ok text).sorted
  · cases h

/-- `Span::join` of two valid spans is valid: in bounds, ordered, on character boundaries. The parser obtains the
spans of its nodes and diagnostics from token spans by `join`, `start_span`/`end_span` and clones only. -/
theorem span_join_in_bounds (text : List CC) (a b : Nat × Nat)
    (ha : validSpan text a.1 a.2 = true) (hb : validSpan text b.1 b.2 = true) :
    validSpan text (joinSpan a b).1 (joinSpan a b).2 = true ∧ (joinSpan a b).2 ≤ blen text := by
  rw [validSpan_iff] at ha hb
  have hj : SpanOK text (joinSpan a b).1 (joinSpan a b).2 := by
    unfold joinSpan
    refine ⟨?_, ?_, ?_⟩
    · simp only []; rw [Nat.min_def]; split
      · exact ha.1
      · exact hb.1
    · simp only []; rw [Nat.max_def]; split
      · exact hb.2.1
      · exact ha.2.1
    · have := ha.2.2; have := hb.2.2; simp only []; omega
  exact ⟨(validSpan_iff _ _ _).2 hj, hj.2.1.le_len⟩

/-- The span conjunct of the predicate the driver evaluates holds of the spans the model reports. The other fields
of the observation (panics, hang, the three counters of the Rust side) are given their good values: they report on
the parser and the renderer, for which the model has no counterpart. -/
theorem C16_prop_of_model (text : List CC) :
    propHolds text { lexPanic := false, parsePanic := false, hang := false, spans := (lex text).spans,
                     badDiagSpans := 0, badTokSpans := 0, renderPanics := 0 } = true := by
  unfold propHolds
  simp only [Bool.not_false, Bool.true_and, beq_self_eq_true, List.all_eq_true]
  intro sp hsp
  exact (validSpan_iff _ _ _).2 (lex_spans_valid text sp hsp)

/-- PARTIAL. What is proved of C16 for ALL inputs is the lexing stage of `parse_file`: it terminates with tokens or
diagnostics, never panics, and every span it reports is in bounds, on character boundaries, with tokens in order;
joins of such spans stay valid. What is NOT proved: `Parser::parse_to_end` (`parser.rs`, `expr/mod.rs`, `literal.rs`, …)
is not modelled, so its panic-freedom, its termination, and the validity of the spans of *parser* diagnostics are not
theorems — they are decided per input by the correspondence stream of `checks/c16.py` (exploration: real `parse_file`
under `catch_unwind` + watchdog, every diagnostic span checked in Rust). -/
theorem C16_partial (text : List CC) :
    (lex text = .ok (lexRaw text).toks (lexRaw text).errs ∨ lex text = .fail (lexRaw text).errs) ∧
    (∀ sp ∈ (lex text).spans, sp.1 ≤ sp.2 ∧ sp.2 ≤ blen text ∧ isBoundary text sp.1 = true ∧ isBoundary text sp.2 = true) ∧
    (∀ a ∈ (lex text).spans, ∀ b ∈ (lex text).spans, validSpan text (joinSpan a b).1 (joinSpan a b).2 = true) := by
  refine ⟨lex_outcome text, ?_, ?_⟩
  · intro sp hsp
    exact ⟨(lex_spans_in_bounds text sp hsp).1, (lex_spans_in_bounds text sp hsp).2,
      (lex_spans_on_char_boundaries text sp hsp).1, (lex_spans_on_char_boundaries text sp hsp).2⟩
  · intro a ha b hb
    exact (span_join_in_bounds text a b ((validSpan_iff _ _ _).2 (lex_spans_valid text a ha))
      ((validSpan_iff _ _ _).2 (lex_spans_valid text b hb))).1

/-! Non-vacuity: inputs that reach `ok` with tokens, `ok` with an error on a multi-byte character, and `fail`;
the three inputs on which the lexer panicked before the C16 `fix:` commit (`/*é`, `"\ué"`, `'😀b'`) give
diagnostics with valid spans. -/
section
private def a (c : Char) : CC := { c := c, xs := c.isAlpha, xc := c.isAlphanum || c == '_' }
private def w (c : Char) : CC := { c := c, ws := true }
private def o (c : Char) : CC := { c := c }

-- `fn f()`
example : lex [a 'f', a 'n', w ' ', a 'f', o '(', o ')'] =
    .ok [⟨.ident false, 0, 2⟩, ⟨.ident false, 3, 4⟩, ⟨.open .paren, 4, 5⟩, ⟨.close .paren, 5, 6⟩] [] := by decide +kernel
-- `/*é` : unclosed block comment whose last character is two bytes long
example : lex [o '/', o '*', a 'é'] = .ok [] [⟨.unclosedMultilineComment, 0, 2⟩] := by decide +kernel
-- `"\ué"` : `\u` not followed by `{`
example : lex [o '"', o '\\', a 'u', a 'é', o '"'] = .fail [⟨.unicodeEscapeMissingBrace, 2, 3⟩] := by decide +kernel
-- `'😀b'` : char literal with two characters, the first four bytes long
example : lex [o '\'', o '😀', a 'b', o '\''] =
    .ok [⟨.str ['😀', 'b'], 0, 6⟩] [⟨.expectedCloseQuote, 5, 7⟩] := by decide +kernel
-- `(]` then end of input
example : lex [o '(', o ']'] = .ok [⟨.open .paren, 0, 1⟩, ⟨.close .paren, 1, 2⟩] [⟨.mismatchedDelimiters, 1, 2⟩] := by decide +kernel
example : validSpan [o '/', o '*', a 'é'] 0 3 = false := by decide +kernel
end

end SwayVerif.C16
