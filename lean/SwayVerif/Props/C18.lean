import SwayVerif.Model.FmtSpec
import SwayVerif.Lemmas.FmtSpec
/-!
# C18 — Formatting is idempotent

The formatter itself (11 k lines of per-item layout rules) is NOT modelled. Idempotence of the whole formatter is
decided per input by comparing `format (format x)` with `format x` on the real code (level
translation_validation). What is proved here, for ALL texts, concerns the two kernels of the last two stages
of `Formatter::format_module` that have a faithful character-level model (`Model/FmtSpec.lean`) and are tied to the
code by correspondence through the verif hooks: `apply_newline_style` (newline_style.rs) and
`format_newline_sequence` (newline.rs, the clamp applied to every blank-line sequence by `handle_newlines`).
-/
namespace SwayVerif.C18
open SwayVerif.FmtSpec

/-- The Windows conversion is idempotent on every text. -/
theorem toWindows_idempotent (s : List Char) : toWindows (toWindows s) = toWindows s := toWindows_idem s

/-- The Unix conversion (`str::replace("\r\n", "\n")`) is idempotent on every text without `\r\r\n`. -/
theorem toUnix_idempotent (s : List Char) (h : hasCRCRLF s = false) : toUnix (toUnix s) = toUnix s :=
  toUnix_idem_of_noCRCRLF s h

/-- The hypothesis of `toUnix_idempotent` cannot be dropped: on `\r\r\n` the Unix conversion is NOT idempotent
(`\r\r\n ↦ \r\n ↦ \n`). Replayed on the real `convert_to_unix_newlines` through the hook (kernel lines `nls`). -/
theorem toUnix_not_idempotent : toUnix (toUnix ['\r', '\r', '\n']) ≠ toUnix ['\r', '\r', '\n'] := by decide

/-- **Newline-style kernel is idempotent**: applying the configured style twice (with the same raw text for
`Auto` detection) equals applying it once, for every style, for every text without `\r\r\n`. -/
theorem newline_style_idempotent (st : Style) (text raw : List Char) (h : hasCRCRLF text = false) :
    applyStyle st (applyStyle st text raw) raw = applyStyle st text raw := by
  unfold applyStyle
  cases sysType st raw with
  | windows => exact toWindows_idem text
  | unix => exact toUnix_idem_of_noCRCRLF text h

/-- **The conversion only touches `\r` / `\n`**: every other character of the text is preserved, in order, for
every style — so no token other than a line end (or a CR/LF inside a multi-line token, rewrite R6 of the C19
specification) can be altered by this stage. -/
theorem newline_style_preserves_tokens (st : Style) (text raw : List Char) :
    eraseNewlines (applyStyle st text raw) = eraseNewlines text := by
  unfold applyStyle
  cases sysType st raw with
  | windows => exact toWindows_erase text
  | unix => exact toUnix_erase text

/-- The conversion deletes at most characters when the target is Unix: the result is a subsequence of the text. -/
theorem toUnix_subsequence (s : List Char) : (toUnix s).Sublist s := toUnix_sublist s

/-- **Blank-line clamp is stable**: `n` newlines between two items become `clampTotal n threshold` newlines, and
a second pass over that result leaves their number unchanged (for every `n ≥ 1` and every threshold). -/
theorem newline_clamp_idempotent (len thr n : Nat) (h : clampTotal len thr = some n) :
    clampTotal n thr = some n := by
  rw [clampTotal_eq] at h ⊢
  split at h
  · nomatch h
  · cases h
    rw [if_neg (by omega), Nat.min_eq_left (Nat.min_le_right _ _)]

/-- The clamp never writes more blank lines than the threshold allows (`n` newlines = `n - 1` blank lines). -/
theorem newline_clamp_bounded (len thr n : Nat) (h : clampTotal len thr = some n) : n ≤ thr + 1 := by
  rw [clampTotal_eq] at h
  split at h
  · nomatch h
  · exact Option.some.inj h ▸ Nat.min_le_right _ _

/-- **C18, partial.** The last two stages of `format_module` are idempotent in the sense above for all texts
(`newline_style_idempotent`, `newline_clamp_idempotent`). NOT covered (not modelled): `format (format x) =
format x` for the formatter as a whole — the per-item layout rules (swayfmt/src/items, utils/language), the
comment map (comments.rs, utils/map/comments.rs) and the placement logic of `handle_newlines` (which leaf-span pair
a blank-line sequence is attached to) are only run, per input, on every `.sw` file of the repository and on
generated whitespace/comment variants, under the default and the other supported configurations. -/
theorem C18_partial (st : Style) (text raw : List Char) (len thr n : Nat)
    (h : hasCRCRLF text = false) (hn : clampTotal len thr = some n) :
    applyStyle st (applyStyle st text raw) raw = applyStyle st text raw ∧ clampTotal n thr = some n :=
  ⟨newline_style_idempotent st text raw h, newline_clamp_idempotent len thr n hn⟩

/-! Non-vacuity: the hypothesis holds of a text with line ends; the styles and the clamp on concrete inputs. -/
example : hasCRCRLF ['a', '\r', '\n', 'b', '\n'] = false := by decide +kernel
example : applyStyle .windows ['a', '\n', 'b', '\r', '\n', '\r', 'c'] [] = ['a', '\r', '\n', 'b', '\r', '\n', '\r', 'c'] := by decide +kernel
example : applyStyle .auto ['a', '\r', '\n', 'b'] ['x', '\n'] = ['a', '\n', 'b'] := by decide +kernel
example : applyStyle .auto ['a', '\n', 'b'] ['x', '\r', '\n'] = ['a', '\r', '\n', 'b'] := by decide +kernel
example : clampTotal 5 1 = some 2 := by decide
example : clampTotal 2 1 = some 2 := by decide
example : clampTotal 1 1 = some 1 := by decide
example : clampTotal 0 1 = none := by decide

end SwayVerif.C18
