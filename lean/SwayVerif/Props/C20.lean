import SwayVerif.Model.Lock
import SwayVerif.Lemmas.Lock
import SwayVerif.Lemmas.LockRT
import SwayVerif.Lemmas.LockGraph
/-!
# C20 — Forc.lock round-trips the resolved package graph

Model: `SwayVerif/Model/Lock.lean` (writer `Lock::from_graph` / `pkg_dep_line` / `Display for Pinned`,
reader `Lock::to_graph` / `parse_pkg_dep_line` / `Pinned::from_str`). `Ext` = the external parsers
(`gix_url`, `cid`, `semver`) as `parse ∘ to_string` on canonical strings; the TOML layer and the
`BTreeSet` order are abstracted: the reader theorem holds for every order of the records.

`WFPinned` / `WFGraph` are decidable and *discovered*: each conjunct has a `not_wf_witness` below —
an input violating only that conjunct for which the round trip fails in the model. Every witness is
also a line of `corpus/c20.txt`, replayed on the real code at every run (model and code agree on how
it fails). Two classes: (a) ASSUMPTION — the conjunct is enforced by a validating function of forc or a
type invariant (`AssumedPinned` / `AssumedGraph`); (b) KNOWN FINDING — reachable from a real manifest, the
real round trip fails, the check reports it (`prop=0 why=<conjunct>`, `known_findings.json` id
`C20-<conjunct>`). The theorems keep the full `WFGraph` hypothesis.
-/
namespace SwayVerif.C20
open SwayVerif.Lock

/-- `Pinned::from_str(&p.to_string()) == Ok(p)` for every well-formed pinned source (member, path,
git with branch / tag / rev / default-branch, ipfs, registry with and without namespace). -/
theorem pinned_roundtrip (ext : Ext) (p : Pinned) (h : WFPinned ext p = true) :
    parsePinned ext p.display = .ok p :=
  parsePinned_display h

/-- `parse_pkg_dep_line(pkg_dep_line(dep_name, name, source, kind, disambiguate))` returns the
dependency name (present iff it was given), the package string (`<name>` or `<name> <source>`) and
the salt (present iff the kind is `Contract` with a non-zero salt). -/
theorem depline_roundtrip (depName : Option Str) (name : Str) (source : Pinned) (kind : DepKind) (dis : Bool)
    (ext : Ext) (hd : ∀ d, depName = some d → WFDepName d = true) (hn : WFName name = true)
    (hs : WFPinned ext source = true) (hp : noChar '(' source.display = true) (hk : WFKind kind = true) :
    parsePkgDepLine (pkgDepLine depName name source.display kind dis) =
      .ok (depName, pkgNameDisambiguated name source.display dis, saltOf kind) :=
  parsePkgDepLine_pkgDepLine depName name source.display kind dis hd (keyOK_disambiguated hn hs hp dis) hk

/-- **C20.** For every well-formed resolved package graph — member, path, git, ipfs and registry
sources; renamed dependencies; contract dependencies with salts; same-named packages from different
sources — writing the lock records and reading them back, in WHATEVER order the `BTreeSet` (or a
hand-edited file) lists them, succeeds and reconstructs the same packages and the same dependency
edges with the same names, kinds and salts (`Graph.equiv`: equality up to node numbering). -/
theorem C20_roundtrip_any_order (ext : Ext) (g : Graph) (h : WFGraph ext g = true)
    (L : List PkgLock) (hL : L.Perm (fromGraph g)) : ∃ g', toGraph ext L = .ok g' ∧ g.equiv g' := by
  have w := WFG_of h
  rw [fromGraph_eq_recs w] at hL
  exact toGraph_perm_recs w hL

/-- `toGraph (fromGraph g) ≅ g`. -/
theorem C20_roundtrip (ext : Ext) (g : Graph) (h : WFGraph ext g = true) :
    ∃ g', toGraph ext (fromGraph g) = .ok g' ∧ g.equiv g' :=
  C20_roundtrip_any_order ext g h (fromGraph g) (List.Perm.refl _)

/-- The decidable predicate the driver evaluates on the implementation's result holds of the model
for every well-formed graph. (It does NOT hold for the class (b) graphs — the known findings below.) -/
theorem C20_prop_of_model (ext : Ext) (g : Graph) (h : WFGraph ext g = true) :
    c20PropHolds ext g (toGraph ext (fromGraph g)) = true := by
  obtain ⟨g', hok, he⟩ := C20_roundtrip ext g h
  unfold c20PropHolds
  rw [hok]
  simp [(equivB_iff g g').mpr he]

/-! ## Non-vacuity -/

def idExt : Ext := ⟨fun s => some s, fun s => some s, fun s => some s⟩
/- The three long constants are character lists, not `"…".toList`: the kernel decodes a string literal
anew in every example that mentions it, and a list is already in normal form. -/
def commitA : Str :=
  ['0', '1', '2', '3', '4', '5', '6', '7',
   '8', '9', 'a', 'b', 'c', 'd', 'e', 'f',
   '0', '1', '2', '3', '4', '5', '6', '7',
   '8', '9', 'a', 'b', 'c', 'd', 'e', 'f',
   '0', '1', '2', '3', '4', '5', '6', '7']
def cidA : Str :=
  ['Q', 'm', 'Y', 'w', 'A', 'P', 'J', 'z', 'v', '5',
   'C', 'Z', 's', 'n', 'A', '6', '2', '5', 's', '3',
   'X', 'f', '2', 'n', 'e', 'm', 't', 'Y', 'g', 'P',
   'p', 'H', 'd', 'W', 'E', 'z', '7', '9', 'o', 'j',
   'W', 'n', 'P', 'b', 'd', 'G']
def saltA : Salt := List.replicate 62 '0' ++ ['f', 'f']

example : WFPinned idExt (.git "https://github.com/FuelLabs/sway".toList (.branch "master".toList) commitA) = true := by decide +kernel
example : WFPinned idExt (.registry "core".toList "0.0.1".toList cidA (some "fuelns".toList)) = true := by decide +kernel
example : WFPinned idExt (.path 0xFFFFFFFFFFFFFFFF) = true := by decide +kernel
example : parsePkgDepLine (pkgDepLine (some "std2".toList) "std".toList (Pinned.path 1).display (.contract saltA) true) =
    .ok (some "std2".toList, "std path+from-root-0000000000000001".toList, some saltA) := by decide +kernel

/-! ## `not_wf_witness`: every conjunct of `WFPinned` is needed -/

/-- (a) assumption on `gix_url` — git: the repo string must re-parse to itself (`ext.url repo = some repo`). -/
example : let ext : Ext := ⟨fun s => some (s.map Char.toLower), fun s => some s, fun s => some s⟩
    let p := Pinned.git "HTTPS://h/x".toList .default commitA
    parsePinned ext p.display ≠ .ok p := by decide +kernel
/-- (b) KNOWN FINDING `C20-git-url-qmark` — git: `?` in the URL. -/
example : let p := Pinned.git "https://x/y?z=1".toList .default commitA
    parsePinned idExt p.display = .err := by decide +kernel
/-- (b) KNOWN FINDING `C20-git-ref-hash` — git: `#` in a branch / tag name. -/
example : let p := Pinned.git "https://x/y".toList (.branch "a#b".toList) commitA
    parsePinned idExt p.display = .err := by decide +kernel
example : let p := Pinned.git "https://x/y".toList (.tag "v#1".toList) commitA
    parsePinned idExt p.display = .err := by decide +kernel
/-- (b) KNOWN FINDING `C20-git-rev-not-commit` — git: `Rev(s)` is printed as `rev` and re-read as `Rev(commit_hash)`. -/
example : let p := Pinned.git "https://x/y".toList (.rev "abc123".toList) commitA
    parsePinned idExt p.display = .ok (.git "https://x/y".toList (.rev commitA) commitA) := by decide +kernel
/-- (a) assumption (`git::pin`: `git2::Oid::to_string`) — git: a commit hash that is not 40 ASCII alphanumerics. -/
example : let p := Pinned.git "https://x/y".toList .default "abc123".toList
    parsePinned idExt p.display = .err := by decide +kernel
/-- (a) assumption — path: the id must fit `u64` (type invariant of `PinnedId`). -/
example : parsePinned idExt (Pinned.path (2 ^ 64)).display = .ok (.path 0) := by decide +kernel
/-- (a) assumption on `cid` — ipfs: the CID string must re-parse to itself / consist of multibase text. -/
example : let ext : Ext := ⟨fun s => some s, fun _ => none, fun s => some s⟩
    parsePinned ext (Pinned.ipfs cidA).display = .err := by decide +kernel
example : parsePinned idExt (Pinned.ipfs "Qm ".toList).display = .ok (.ipfs "Qm".toList) := by decide +kernel
/-- (a) assumption (`validate_package_name`, `validate_dep_manifest`) — registry: `?` in the package name. -/
example : parsePinned idExt (Pinned.registry "x?y".toList "0.0.1".toList cidA none).display =
    .ok (.registry "x".toList "y?0.0.1".toList cidA none) := by decide +kernel
/-- (a) assumption on `semver` — registry: the version must re-parse to itself / must not contain `#`. -/
example : let ext : Ext := ⟨fun s => some s, fun s => some s, fun _ => none⟩
    parsePinned ext (Pinned.registry "x".toList "0.0.1".toList cidA none).display = .err := by decide +kernel
example : parsePinned idExt (Pinned.registry "x".toList "0.0#1".toList cidA none).display = .err := by decide +kernel
/-- registry: the CID must re-parse to itself and be multibase text ((a), `cid`); it must pass
`validate_cid`, CIDv0 only — (b) KNOWN FINDING `C20-reg-cid-not-v0` (third example). -/
example : let ext : Ext := ⟨fun s => some s, fun _ => none, fun s => some s⟩
    parsePinned ext (Pinned.registry "x".toList "0.0.1".toList cidA none).display = .err := by decide +kernel
example : parsePinned idExt (Pinned.registry "x".toList "0.0.1".toList (cidA.take 45 ++ ['!']) none).display ≠
    .ok (Pinned.registry "x".toList "0.0.1".toList (cidA.take 45 ++ ['!']) none) := by decide +kernel
example : parsePinned idExt (Pinned.registry "x".toList "0.0.1".toList
    "bafybeigdyrzt5sfp7udm7hu76uh7y26nf3efuylqabf3oclgtqy55fbzdi".toList none).display = .err := by decide +kernel
/-- (b) KNOWN FINDINGS `C20-reg-ns-empty` (`Domain("")` is re-read as `Flat`) and `C20-reg-ns-chars`
(`#`, `!` or trailing whitespace in the namespace). -/
example : parsePinned idExt (Pinned.registry "x".toList "0.0.1".toList cidA (some [])).display =
    .ok (.registry "x".toList "0.0.1".toList cidA none) := by decide +kernel
example : parsePinned idExt (Pinned.registry "x".toList "0.0.1".toList cidA (some "a#b".toList)).display =
    .ok (.registry "x".toList "0.0.1".toList cidA (some "a".toList)) := by decide +kernel
example : parsePinned idExt (Pinned.registry "x".toList "0.0.1".toList cidA (some "a!b".toList)).display =
    .ok (.registry "x".toList "0.0.1".toList cidA (some "a".toList)) := by decide +kernel
example : parsePinned idExt (Pinned.registry "x".toList "0.0.1".toList cidA (some "a ".toList)).display =
    .ok (.registry "x".toList "0.0.1".toList cidA (some "a".toList)) := by decide +kernel

/-! ## `not_wf_witness`: every conjunct of `WFGraph` is needed

`rtOK` = the round trip succeeds and gives an equivalent graph. Each witness violates one conjunct only. -/

def rtOK (ext : Ext) (g : Graph) : Bool :=
  match toGraph ext (fromGraph g) with
  | .ok h => g.equivB h
  | _ => false

def gitP (branch : String) : Pinned := .git "https://x/y".toList (.branch branch.toList) commitA
def pk (n : String) (s : Pinned) : Pkg := ⟨n.toList, s⟩
def ed (a b : Nat) (n : String) (k : DepKind) : Edge := ⟨a, b, n.toList, k⟩

/-- A well-formed graph with every feature: all five source kinds, two packages named `std` from
different sources, a renamed dependency, contract dependencies with zero and non-zero salt. -/
def gOK : Graph :=
  ⟨[pk "app" .member, pk "std" (.path 1), pk "std" (gitP "master"), pk "core" (.registry "core".toList "0.0.1".toList cidA none),
    pk "tok" (.ipfs cidA)],
   [ed 0 1 "std" .library, ed 0 2 "std2" .library, ed 0 3 "core" .library, ed 0 4 "tok" (.contract saltA),
    ed 4 1 "std" (.contract zeroSalt), ed 2 3 "core" .library]⟩
example : WFGraph idExt gOK = true := by decide +kernel
example : rtOK idExt gOK = true := by decide +kernel

/-- (a) assumption (`validate_project_name`) — name: empty. -/
def gW1 : Graph := ⟨[pk "a" .member, pk "" (.path 1)], [ed 0 1 "" (.contract saltA)]⟩
/-- (a) — name: contains a space (collides with another package's `<name> <source>` key). -/
def gW2 : Graph := ⟨[pk "a" .member, pk "a" (.path 1), pk "a member" (.path 2)], [ed 1 0 "a" .library]⟩
/-- (a) — name: contains `(`. -/
def gW3 : Graph := ⟨[pk "a" .member, pk "a(b" (.path 1)], [ed 0 1 "a(b" .library]⟩
/-- (a) — name: starts / ends with whitespace. -/
def gW4 : Graph := ⟨[pk "a" .member, pk "\tb" (.path 1)], [ed 0 1 "\tb" .library]⟩
def gW5 : Graph := ⟨[pk "a" .member, pk "b\t" (.path 1)], [ed 0 1 "b\t" .library]⟩
/-- (b) KNOWN FINDING `C20-git-ref-hash` — source: not `WFPinned` (`#` in a branch name). -/
def gW6 : Graph := ⟨[pk "a" (gitP "a#b")], []⟩
/-- (b) KNOWN FINDING `C20-paren-in-source` — source string contains `(` and the package needs disambiguation. -/
def gW7 : Graph := ⟨[pk "a" .member, pk "a" (gitP "x(y"), pk "b" .member], [ed 2 1 "a" .library]⟩
/-- (b) KNOWN FINDING `C20-duplicate-node` — two nodes with the same name and the same source string
(two path packages of the same name under one root; two git nodes differing only in the `Rev` string). -/
def gW8 : Graph := ⟨[pk "a" .member, pk "a" .member], []⟩
/-- (a) assumption — dangling edge (excluded by petgraph). -/
def gW9 : Graph := ⟨[pk "a" .member], [ed 0 5 "x" .library]⟩
def gW10 : Graph := ⟨[pk "a" .member], [ed 5 0 "x" .library]⟩
/-- (b) KNOWN FINDING `C20-dep-name-paren` — dependency name contains `)`. -/
def gW11 : Graph := ⟨[pk "a" .member, pk "b" (.path 1)], [ed 0 1 "d)e" .library]⟩
/-- (a) assumption — salt that is not the canonical 64 lower-case hex digits (excluded by `fuel_tx::Salt`). -/
def gW12 : Graph := ⟨[pk "a" .member, pk "b" (.path 1)], [ed 0 1 "b" (.contract "ABC".toList)]⟩
/-- (a) assumption (`fetch_deps` uses `update_edge`) — two edges between the same ordered pair. -/
def gW13 : Graph := ⟨[pk "a" .member, pk "b" (.path 1)], [ed 0 1 "x" .library, ed 0 1 "y" .library]⟩

example : WFGraph idExt gW1 = false ∧ rtOK idExt gW1 = false := by decide +kernel
example : WFGraph idExt gW2 = false ∧ rtOK idExt gW2 = false := by decide +kernel
example : WFGraph idExt gW3 = false ∧ rtOK idExt gW3 = false := by decide +kernel
example : WFGraph idExt gW4 = false ∧ rtOK idExt gW4 = false := by decide +kernel
example : WFGraph idExt gW5 = false ∧ rtOK idExt gW5 = false := by decide +kernel
example : WFGraph idExt gW6 = false ∧ rtOK idExt gW6 = false := by decide +kernel
example : WFGraph idExt gW7 = false ∧ rtOK idExt gW7 = false := by decide +kernel
example : WFGraph idExt gW8 = false ∧ rtOK idExt gW8 = false := by decide +kernel
example : WFGraph idExt gW9 = false ∧ rtOK idExt gW9 = false := by decide +kernel
example : WFGraph idExt gW10 = false ∧ rtOK idExt gW10 = false := by decide +kernel
example : WFGraph idExt gW11 = false ∧ rtOK idExt gW11 = false := by decide +kernel
example : WFGraph idExt gW12 = false ∧ rtOK idExt gW12 = false := by decide +kernel
example : WFGraph idExt gW13 = false ∧ rtOK idExt gW13 = false := by decide +kernel

/-! ## Known findings (class (b)): the assumptions hold, the property's predicate fails — in the model
exactly as on the real code (`corpus/c20.txt`, same graphs). -/

def failsProp (g : Graph) : Bool :=
  AssumedGraph idExt g && !(c20PropHolds idExt g (toGraph idExt (fromGraph g)))

def one (s : Pinned) : Graph := ⟨[pk "a" s], []⟩
def regP (cid : Str) (ns : Option String) : Pinned := .registry "x".toList "0.0.1".toList cid (ns.map String.toList)

/-- `C20-git-ref-hash` -/
example : failsProp gW6 = true := by decide +kernel
example : failsProp (one (.git "https://x/y".toList (.tag "v#1".toList) commitA)) = true := by decide +kernel
/-- `C20-git-url-qmark` -/
example : failsProp (one (.git "https://x/y?z=1".toList .default commitA)) = true := by decide +kernel
/-- `C20-git-rev-not-commit` -/
example : failsProp (one (.git "https://x/y".toList (.rev "abc123".toList) commitA)) = true := by decide +kernel
/-- `C20-reg-cid-not-v0` -/
example : failsProp (one (regP "bafybeigdyrzt5sfp7udm7hu76uh7y26nf3efuylqabf3oclgtqy55fbzdi".toList none)) = true := by decide +kernel
/-- `C20-reg-ns-empty`, `C20-reg-ns-chars` -/
example : failsProp (one (regP cidA (some ""))) = true := by decide +kernel
example : failsProp (one (regP cidA (some "a#b"))) = true := by decide +kernel
example : failsProp (one (regP cidA (some "a!b"))) = true := by decide +kernel
example : failsProp (one (regP cidA (some "a "))) = true := by decide +kernel
/-- `C20-paren-in-source` -/
example : failsProp gW7 = true := by decide +kernel
/-- `C20-duplicate-node` -/
example : failsProp gW8 = true := by decide +kernel
example : failsProp ⟨[pk "a" (.git "https://x/y".toList (.rev "abc123".toList) commitA),
    pk "a" (.git "https://x/y".toList (.rev "abc1234".toList) commitA), pk "b" .member], [ed 2 0 "a" .library]⟩ = true := by decide +kernel
/-- `C20-dep-name-paren` -/
example : failsProp gW11 = true := by decide +kernel
/-- The class (a) witnesses are outside `AssumedGraph`: nothing is demanded of them. -/
example : [gW1, gW2, gW3, gW4, gW5, gW9, gW10, gW12, gW13].all (fun g => !AssumedGraph idExt g) = true := by decide +kernel

end SwayVerif.C20
