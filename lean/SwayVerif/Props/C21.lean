import SwayVerif.Model.Lock
import SwayVerif.Lemmas.Lock
/-!
# C21 — Reading any lock file never crashes

Model: `SwayVerif/Model/Lock.lean` — `source::Pinned::from_str` (path / git / ipfs / registry),
`parse_pkg_dep_line` and `Lock::to_graph`, with every Rust slice (`&s[n..]`), map index
(`pkg_to_node[&key]`) and graph index (`graph[dep_node]`) an explicit `Res.panic` outcome.
`Ext` = the external parsers (`gix_url`, `cid`, `semver`), arbitrary total functions.
The TOML layer (`toml::de::from_str` into `Lock`) is outside the model: `toGraph` starts from the
deserialised `PkgLock` records, for ALL such records.
-/
namespace SwayVerif.C21
open SwayVerif.Lock

/-- Every source string — malformed or not — is parsed to a pinned source or reported as an error. -/
theorem C21_no_panic (ext : Ext) (s : Str) : parsePinned ext s ≠ .panic :=
  parsePinned_ne_panic ext s

/-- Malformed source strings are *errors*: the outcome is `ok` or `err`, for all strings. -/
theorem C21_pinned_ok_or_err (ext : Ext) (s : Str) :
    (∃ p, parsePinned ext s = .ok p) ∨ parsePinned ext s = .err :=
  Res.ne_panic_iff.mp (parsePinned_ne_panic ext s)

/-- Every dependency line is parsed or reported as an error. -/
theorem C21_depline_no_panic (l : Str) : parsePkgDepLine l ≠ .panic :=
  parsePkgDepLine_ne_panic l

/-- `Lock::to_graph` on any deserialised lock yields a package graph or an error: in particular
`pkg_to_node[&key]` always finds its key and `graph[dep_node]` is always in range. -/
theorem toGraph_no_panic (ext : Ext) (pkgs : List PkgLock) : toGraph ext pkgs ≠ .panic :=
  toGraph_ne_panic ext pkgs

/-- The predicate the driver evaluates on the implementation's outcome class holds of the model. -/
theorem C21_prop_of_model (ext : Ext) (pkgs : List PkgLock) (s l : Str) :
    c21PropHolds (toGraph ext pkgs).cls = true ∧ c21PropHolds (parsePinned ext s).cls = true ∧
    c21PropHolds (parsePkgDepLine l).cls = true :=
  ⟨c21PropHolds_cls.mpr (toGraph_ne_panic ext pkgs), c21PropHolds_cls.mpr (parsePinned_ne_panic ext s),
    c21PropHolds_cls.mpr (parsePkgDepLine_ne_panic l)⟩

/-! Non-vacuity: the inputs on which the code before the C21 `fix:` commit panicked are errors (its slices
were `Res.orPanic (getFrom ..)`, e.g. `getFrom ['f','o','o'] 9 = none`). -/
def idExt : Ext := ⟨fun s => some s, fun s => some s, fun s => some s⟩
example : parsePinned idExt ['f', 'o', 'o'] = .err := by decide
example : parsePinned idExt [] = .err := by decide
example : parsePinned idExt ['g', 'i', 't', '+', 'f', 'o', 'o'] = .err := by decide
example : parsePinned idExt ['r', 'e', 'g', 'i', 's', 't', 'r', 'y', '+', 'a', 'b', 'c'] = .err := by decide
example : parsePkgDepLine ['b', ' ', '('] = .err := by decide
example : parsePkgDepLine ['(', 'x'] = .err := by decide
example : parsePkgDepLine ['b', ' ', '(', 'é'] = .err := by decide
example : getFrom ['f', 'o', 'o'] 9 = none := by decide
example : toGraph idExt [⟨['a'], none, ['f', 'o', 'o'], [], []⟩] = .err := by decide
example : toGraph idExt [⟨['a'], none, ['m', 'e', 'm', 'b', 'e', 'r'], [['b', ' ', '(']], []⟩] = .err := by decide
example : toGraph idExt [⟨['a'], none, ['m', 'e', 'm', 'b', 'e', 'r'], [['a']], []⟩] =
    .ok ⟨[⟨['a'], .member⟩], [⟨0, 0, ['a'], .library⟩]⟩ := by decide

end SwayVerif.C21
