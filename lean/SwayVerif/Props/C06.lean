import SwayVerif.Model.ConstFold
import SwayVerif.Lemmas.ConstFold
import SwayVerif.Generated.FoldTable
/-!
# C06 — compile-time evaluation agrees with run-time evaluation

The theorems quantify over the GENERATED tables (`Generated/FoldTable.lean`, re-extracted
from /repo on every run): every arm of `combine_binary_op` / `combine_unary_op` / `combine_cmp`
(source `irFold`) and of `const_eval_intrinsic` (source `constEval`), every rewrite of
`remove_useless_binary_op`, against the instruction `fuel_asm_builder.rs` emits for the operator
(`lowering`) as executed by the FuelVM model (`RustInt.vmExec`).  All statements are for ALL operand
payloads in the range of the operand's `ConstantValue` variant (`u64` payload whatever the declared width
— the folder never range-checks narrow types, by design — and 256-bit values for `u256`/`b256`).

Level of the statements. `C06_binop`, `C06_cmp`, `C06_no_subst_on_revert`, `C06_useless_binop` are at
**IR-instruction level**: IR `add u8 200, 100` folds to `300` and the VM's `ADD` yields `300`; the `u8`
range check is separate IR emitted from `sway-lib-std/src/ops.sw` (`C06_narrow_arith_std` covers that
recipe).  `C06_unop` is at **Sway level** for `u8/u16/u32` (`!x` = `__and(__not(x), max)` as `ops.sw`
writes it); at IR-instruction level narrow `not` does NOT agree (`C06_not_narrow_ir_witness`), only modulo
the width mask (`C06_unop_ir_partial`).
-/
namespace SwayVerif.C06
open SwayVerif.RustInt SwayVerif.ConstFold SwayVerif.Generated.FoldTable

/-- Every binary / comparison arm of the generated fold table pairs a Rust method with the emitted VM
instruction that is on the proven whitelist (`Lemmas/ConstFold.lean`). Fails to elaborate when an arm, a
`U256` method body, a `bits()` bound or a lowering row changes to something unproven. -/
theorem table_checked : (foldTable.filter (fun arm => arm.op != .not)).all (armCheck lowering) = true := by
  decide +kernel

theorem not_table_checked : (foldTable.filter (fun arm => arm.op == .not)).all (notCheck lowering) = true := by
  decide +kernel

theorem simp_table_checked : simpTable.all (simpCheck lowering) = true := by
  decide +kernel

theorem shl_table_checked :
    (foldTable.filter (fun arm => arm.op == .lsh && arm.lkind.isWideKind)).all shlBoundCheck = true := by
  decide +kernel

theorem crash_table_checked : tableCrashFree foldTable = true := by
  decide +kernel

theorem all_filter {α : Type} {l : List α} {p q : α → Bool} (h : (l.filter p).all q = true) {x : α} (hx : x ∈ l)
    (hp : p x = true) : q x = true :=
  List.all_eq_true.1 h x (List.mem_filter.2 ⟨hx, hp⟩)

theorem arm_sound (arm : Arm) (hmem : arm ∈ foldTable) (hop : arm.op ≠ .not) : ArmSound lowering arm :=
  armCheck_sound _ _ (all_filter table_checked hmem (bne_iff_ne.2 hop))

/-- **Binary operators** (add, sub, mul, div, mod, and, or, xor, lsh, rsh), every arm of both compile-time
evaluators, every operand type the arm matches, all payloads: if the compiler folds to `v`, the VM
instruction emitted for the operator computes `v` (no panic). -/
theorem C06_binop (arm : Arm) (hmem : arm ∈ foldTable)
    (hop : arm.op ∈ [Op.add, .sub, .mul, .div, .mod, .and, .or, .xor, .lsh, .rsh])
    (ty : Ty) (a b v : Nat) (hl : arm.lkind.matches ty = true) (hr : arm.rkind.matches (rhsTy arm.op ty) = true)
    (ha : a < ty.bound) (hb : b < (rhsTy arm.op ty).bound) (h : ctEval arm ty a b = .fold v) :
    rtEval lowering arm.op ty a b = .ok v :=
  arm_sound arm hmem (by intro e; rw [e] at hop; simp at hop) ty a b v hl hr ha hb h

/-- **Comparisons** (`cmp eq/lt/gt`; result `1`/`0` for `true`/`false`). -/
theorem C06_cmp (arm : Arm) (hmem : arm ∈ foldTable) (hop : arm.op ∈ [Op.eq, .lt, .gt])
    (ty : Ty) (a b v : Nat) (hl : arm.lkind.matches ty = true) (hr : arm.rkind.matches (rhsTy arm.op ty) = true)
    (ha : a < ty.bound) (hb : b < (rhsTy arm.op ty).bound) (h : ctEval arm ty a b = .fold v) :
    rtEval lowering arm.op ty a b = .ok v :=
  arm_sound arm hmem (by intro e; rw [e] at hop; simp at hop) ty a b v hl hr ha hb h

/-- **When run-time evaluation does not produce a value (VM panic), the compiler never substitutes one.** -/
theorem C06_no_subst_on_revert (arm : Arm) (hmem : arm ∈ foldTable) (hop : arm.op ≠ .not)
    (ty : Ty) (a b : Nat) (hl : arm.lkind.matches ty = true) (hr : arm.rkind.matches (rhsTy arm.op ty) = true)
    (ha : a < ty.bound) (hb : b < (rhsTy arm.op ty).bound)
    (hrt : ∀ v, rtEval lowering arm.op ty a b ≠ .ok v) : ∀ v, ctEval arm ty a b ≠ .fold v := by
  intro v hct
  exact hrt v (arm_sound arm hmem hop ty a b v hl hr ha hb hct)

/-- **Unary `not`**, every arm: the folded value is what `!x` yields at run time — the `NOT` instruction,
followed on `u8/u16/u32` by `AND max` exactly as `impl Not for u8/u16/u32` in `ops.sw` does. -/
theorem C06_unop (arm : Arm) (hmem : arm ∈ foldTable) (hop : arm.op = .not)
    (ty : Ty) (a v : Nat) (hl : arm.lkind.matches ty = true) (ha : a < ty.bound)
    (h : ctEval arm ty a 0 = .fold v) : rtNotStd lowering ty a = .ok v :=
  notCheck_sound _ _ (all_filter not_table_checked hmem (beq_iff_eq.2 hop)) ty a v hl ha h

/-- The rows of the lowering table behind the recipes of `ops.sw` for narrow types. -/
theorem lowering_narrow :
    findLower lowering .not false = some .not ∧ findLower lowering .and false = some .and ∧
    findLower lowering .add false = some .add ∧ findLower lowering .sub false = some .sub ∧
    findLower lowering .mul false = some .mul := by
  decide

/-- IR-instruction level for `not` (PARTIAL: full agreement only for `u64`, `u256`, `b256`): the bare
instruction never panics and agrees with the folded value modulo the width mask. What is missing for the
full statement is false on the current tree, see `C06_not_narrow_ir_witness`. -/
theorem C06_unop_ir_partial (arm : Arm) (hmem : arm ∈ foldTable) (hop : arm.op = .not)
    (ty : Ty) (a v : Nat) (hl : arm.lkind.matches ty = true) (ha : a < ty.bound)
    (h : ctEval arm ty a 0 = .fold v) :
    ∃ w, rtEval lowering .not ty a 0 = .ok w ∧
      (ty.isWide = true → w = v) ∧ (ty = .u64 → w = v) ∧ (ty.isWide = false → w &&& ty.maxVal = v) := by
  have hs := C06_unop arm hmem hop ty a v hl ha h
  obtain ⟨lnot, land, _⟩ := lowering_narrow
  cases hw : ty.isWide
  · -- narrow: `NOT`, then `AND max`
    rw [rtNotStd_narrow hw lnot land] at hs
    refine ⟨not64 a, rtEval_narrow hw lnot a 0, fun h => Bool.noConfusion h, ?_, fun _ => Outcome.ok.inj hs⟩
    rintro rfl
    rw [← Outcome.ok.inj hs]
    show not64 a = not64 a &&& (2 ^ 64 - 1)
    rw [Nat.and_two_pow_sub_one_eq_mod, Nat.mod_eq_of_lt]
    unfold not64
    omega
  · rw [rtNotStd_of_wide hw] at hs
    exact ⟨v, hs, fun _ => rfl, by rintro rfl; exact Bool.noConfusion hw, fun h => Bool.noConfusion h⟩

/-- Negation witness for the full IR-level statement: `not u8 5` folds to `250` (`combine_unary_op` masks to
the width) while the `NOT` instruction the backend emits for IR `not` leaves `0xFFFFFFFFFFFFFFFA` in the
register. Observable only by code that uses `__not` on `u8/u16/u32` directly; `ops.sw` masks. -/
theorem C06_not_narrow_ir_witness :
    ctFold foldTable .irFold .not .u8 .u64 5 0 = .fold 250 ∧
    ctFold foldTable .constEval .not .u8 .u64 5 0 = .fold 250 ∧
    rtEval lowering .not .u8 5 0 = .ok 18446744073709551610 := by
  decide +kernel

/-- Table lookups (first matching arm, like the Rust `match`) are sound: corollary of `arm_sound`. -/
theorem ctFold_sound (src : Src) (op : Op) (hop : op ≠ .not) (ty : Ty) (a b v : Nat)
    (ha : a < ty.bound) (hb : b < (rhsTy op ty).bound)
    (h : ctFold foldTable src op ty (rhsTy op ty) a b = .fold v) : rtEval lowering op ty a b = .ok v := by
  unfold ctFold at h
  split at h
  · rename_i arm hfind
    have hmem : arm ∈ foldTable := List.mem_of_find?_eq_some hfind
    have hp := List.find?_some hfind
    simp only [Bool.and_eq_true, beq_iff_eq] at hp
    obtain ⟨⟨⟨_, hop'⟩, hl⟩, hr⟩ := hp
    subst hop'
    exact arm_sound arm hmem hop ty a b v hl hr ha hb h
  · exact Ct.noConfusion h

/-- **Sway level, `u8/u16/u32` arithmetic as `ops.sw` writes it** (`+ - *`: the `u64` intrinsic, then
`if __gt(res, max) { __revert(0) }`): when `const_eval` interpreting that body yields `v`, the run-time
recipe yields `v` and does not revert; in particular a const expression whose run-time evaluation reverts
is never given a value. -/
theorem C06_narrow_arith_std (op : Op) (hop : op ∈ [Op.add, .sub, .mul]) (ty : Ty) (hty : ty ∈ [Ty.u8, .u16, .u32])
    (a b v : Nat)
    (ha : a < p64) (hb : b < p64) (h : ctNarrowArith foldTable op ty a b = .fold v) :
    rtNarrowArith lowering op ty a b = .ok v := by
  obtain ⟨h1, h2⟩ := ctNarrowArith_fold h
  simp only [List.mem_cons, List.not_mem_nil, or_false] at hop hty
  have hne : op ≠ .not := by rintro rfl; simp at hop
  have hrhs : rhsTy op .u64 = .u64 := by unfold rhsTy; split <;> rfl
  have hrt := ctFold_sound .constEval op hne .u64 a b v ha (hrhs.symm ▸ hb) (hrhs.symm ▸ h1)
  -- the VM result of a 64-bit instruction is a 64-bit word
  have hv : v < p64 := by
    obtain ⟨_, _, ladd, lsub, lmul⟩ := lowering_narrow
    rcases hop with rfl | rfl | rfl
    · exact captureOverflow_ok (rtEval_narrow (ty := .u64) rfl ladd a b ▸ hrt)
    · exact captureOverflow_ok (rtEval_narrow (ty := .u64) rfl lsub a b ▸ hrt)
    · exact captureOverflow_ok (rtEval_narrow (ty := .u64) rfl lmul a b ▸ hrt)
  have hmax : ty.maxVal < p64 := by rcases hty with rfl | rfl | rfl <;> decide
  exact rtNarrowArith_ok hrt (ctFold_sound .constEval .gt (by decide) .u64 v ty.maxVal 0 hv hmax h2)

/-- **"Useless binary op" rewrites** (`0 + x`, `x + 0`, `1 * x`, `x * 1`, `x / 1`, `x - 0`): the operand that
replaces the instruction is the value the VM would have computed, for every `x`. -/
theorem C06_useless_binop (s : Simp) (hmem : s ∈ simpTable) (x : Nat) (hx : x < p64) :
    simpRt lowering s x = .ok (simpCt s x) :=
  simpCheck_sound lowering s (List.all_eq_true.1 simp_table_checked s hmem) x hx

/-- **`U256::checked_shl` is bounded**: every `lsh` arm on a 256-bit value never materialises a `BigUint`
of more than 511 bits, and a non-zero value shifted by 256 or more is declined (`None`) before shifting;
zero stays zero (`C06_binop` covers the value). -/
theorem u256_shl_bounded (arm : Arm) (hmem : arm ∈ foldTable) (hop : arm.op = .lsh)
    (hk : arm.lkind.isWideKind = true) (ty : Ty) (a b : Nat) (ha : a < p256) :
    shlWork arm.method a b ≤ 511 ∧ (a ≠ 0 → 256 ≤ b → ctEval arm ty a b = .decline) :=
  shlBoundCheck_sound arm (all_filter shl_table_checked hmem (by rw [hop, hk]; rfl)) ty a b ha

/-- **The compile-time evaluators never crash**: for both evaluators, every operator and every operand type
the type checker admits for it (`wellTyped`), the arm selected (first match, as in Rust) cannot panic — there
is an arm before the `_ => unreachable!/panic!` fall-through, and every `BigUint` division / remainder /
subtraction in it is guarded. Before the two `fix:` commits in `const_eval_intrinsic` this did not hold:
`const X: u256 = __mod(5, 0)` (`Some(arg1.rem(arg2))`) and `const X: bool = __lt(b1, b2)` on `b256` (no `B256`
arm in `Gt`/`Lt`, which `impl Ord for b256` of std reaches) panicked the compiler (replayed, corpus/c06.txt). -/
theorem C06_ct_never_crashes (src : Src) (op : Op) (ty : Ty) (hwt : wellTyped op ty = true) (a b : Nat) :
    ctFold foldTable src op ty (rhsTy op ty) a b ≠ .crash :=
  tableCrashFree_sound foldTable crash_table_checked src op ty hwt a b

/-- The decidable predicate the driver evaluates on the implementation's results holds of the model
(both evaluators, all binary / comparison operators, all well-typed operand types, all operands in range). -/
theorem C06_prop_of_model (src : Src) (op : Op) (hop : op ≠ .not) (ty : Ty) (hwt : wellTyped op ty = true)
    (a b : Nat) (ha : a < ty.bound) (hb : b < (rhsTy op ty).bound) :
    propHolds (ctFold foldTable src op ty (rhsTy op ty) a b) (rtEval lowering op ty a b) = true := by
  have hc := C06_ct_never_crashes src op ty hwt a b
  unfold propHolds
  cases hct : ctFold foldTable src op ty (rhsTy op ty) a b with
  | fold v => simp [ctFold_sound src op hop ty a b v ha hb hct]
  | decline => rfl
  | crash => exact absurd hct hc

/-! Non-vacuity: the hypotheses are met by concrete arms and operands. -/
example : (⟨.irFold, .add, .uint, .uint, .u64 .checkedAdd⟩ : Arm) ∈ foldTable := by decide +kernel
example : ctFold foldTable .irFold .add .u8 .u8 200 100 = .fold 300 ∧ rtEval lowering .add .u8 200 100 = .ok 300 := by decide +kernel
example : ctFold foldTable .irFold .add .u64 .u64 (2 ^ 64 - 1) 1 = .decline ∧ rtEval lowering .add .u64 (2 ^ 64 - 1) 1 = .panic := by decide +kernel
example : ctFold foldTable .irFold .lsh .u256 .u64 1 (2 ^ 40) = .decline ∧ rtEval lowering .lsh .u256 1 (2 ^ 40) = .ok 0 := by decide +kernel
example : ctFold foldTable .irFold .lsh .u256 .u64 0 (2 ^ 40) = .fold 0 := by decide +kernel
example : ctFold foldTable .irFold .not .u64 .u64 0 0 = .fold (2 ^ 64 - 1) := by decide +kernel
example : (⟨.add, true, 0, false⟩ : Simp) ∈ simpTable := by decide +kernel

end SwayVerif.C06
