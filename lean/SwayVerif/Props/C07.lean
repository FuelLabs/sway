import SwayVerif.Lemmas.AsmOptValid
import SwayVerif.Lemmas.AsmOptDemo
/-!
# C07 — assembly-level optimisations preserve behaviour

**What is proved, for ALL op lists `P` and ALL machines.** The machine (`Model/AsmOpt.lean`) is
parametric in the meaning `sem` of every op that is not a label / comment / jump / jump-if-not-zero;
the five clauses of `Respects mc amb` (`Lemmas/AsmOptOp.lean`) are all that is assumed about it,
relative to a set `amb` of registers side-effecting ops (calls) may read and write without declaring
it. `Equiv mc P Q` (`Lemmas/AsmOptSim.lean`): entered at op 0 with any registers and memory, `P` and
`Q` end with the same exit value and the same final memory (memory = everything outside the register
file, receipts included), or are both stuck, or both run forever.

Each modelled pass is proved in its CERTIFIED form `passC`: the model of the Rust pass followed by
a decidable justification of the concrete rewrite (`validDelete`: every deleted op is skippable
and what it may write is neither ambient nor live in the program with the deleted ops skipped;
`validUnreach`; `validSeqJump`; `validMoves`). `passC P = some Q` implies `Q` is exactly what the
model of the Rust pass returns (`certified_is_pass`); the correspondence run compares the model
pass with the real pass on every case and evaluates the same checkers on the REAL before/after pair.
The certificate cannot be dropped: `C07_flags_guard_insufficient` shows (and the VM replay
`corpus/c07_flags.sw` confirms on the real compiler) that `remove_redundant_ops` and
`remove_sequential_jumps` do change behaviour when `$of`/`$err` is read later than by the very
next op.

**Not proved** (`C07_partial`): `constant_propagate` and `const_indexing_aggregates_function` are
not modelled; they enter `optimize` as parameters assumed to preserve behaviour, and are validated
per program only (whole-program runs on the VM with and without `SWAY_VERIF_NO_ASM_OPT`).
-/
namespace SwayVerif.C07
open SwayVerif.Asm SwayVerif.AsmOpt

variable {V M X : Type}

def Preserves (mc : Machine V M X) (f : Pass) : Prop := ∀ P Q, f P = some Q → Equiv mc P Q

/-- The certified passes return what the models of the Rust passes return. -/
theorem certified_is_pass (amb : Reg → Bool) (P Q : List AOp) :
    (seqJumpC amb P = some Q → Q = removeSequentialJumps P) ∧
    (redundantMovesC amb P = some Q → Q = removeRedundantMoves P) ∧
    (redundantOpsC amb P = some Q → Q = removeRedundantOps P) ∧
    (dceC amb P = some Q → dce P = some Q) ∧
    (simplifyCfgC P = some Q → simplifyCfg P = some Q) := by
  refine ⟨fun h => (seqJumpC_eq_some.1 h).2.symm, fun h => (redundantMovesC_eq_some.1 h).2.symm,
    fun h => (redundantOpsC_eq_some.1 h).2.symm, fun h => ?_, fun h => ?_⟩
  · obtain ⟨ks, hks, _, rfl⟩ := dceC_eq_some.1 h
    rw [dce, hks]; rfl
  · obtain ⟨ks, hks, _, rfl⟩ := simplifyCfgC_eq_some.1 h
    rw [simplifyCfg, hks]; rfl

/-- The checkers the correspondence run evaluates on the REAL before/after pairs are sound. -/
theorem C07_checkers_sound {mc : Machine V M X} {amb : Reg → Bool} (hR : Respects mc amb)
    (hambv : ∀ x, amb x = true → x.isVirt = false) (P Q : List AOp) (ks : List Bool) :
    (validDeleteAuto amb P ks = true → Equiv mc P (filterMask P ks)) ∧
    (validUnreach P ks = true → Equiv mc P (filterMask P ks)) ∧
    (validSeqJumpAuto amb P Q = true → Equiv mc P Q) ∧
    (validMoves amb P Q = true → Equiv mc P Q) :=
  ⟨validDeleteAuto_sound hR, validUnreach_sound mc, validSeqJumpAuto_sound hR, validMoves_sound hR hambv⟩

/-- `remove_sequential_jumps`: replacing a jump to the immediately following label by `NOOP`
preserves behaviour — whenever `$of`/`$err` are not live at that label. -/
theorem seqjump_preserves {mc : Machine V M X} {amb : Reg → Bool} (hR : Respects mc amb) :
    Preserves mc (seqJumpC amb) := by
  intro P Q h
  obtain ⟨hv, rfl⟩ := seqJumpC_eq_some.1 h
  exact validSeqJumpAuto_sound hR hv

/-- `remove_redundant_moves`: a `MOVE` into a virtual register that no op reads can be replaced by
`NOOP` (both clear `$of`/`$err`). -/
theorem redundant_moves_preserve {mc : Machine V M X} {amb : Reg → Bool} (hR : Respects mc amb)
    (hambv : ∀ x, amb x = true → x.isVirt = false) : Preserves mc (redundantMovesC amb) := by
  intro P Q h
  obtain ⟨hv, rfl⟩ := redundantMovesC_eq_some.1 h
  exact validMoves_sound hR hambv hv

/-- `remove_redundant_moves`, without certificate: on every op list whose `MOVE`s into virtual
registers have no side effect and define `$of`/`$err` like `NOOP` (`movesWf`: what `has_side_effect`
and `def_const_registers` say of every real `MOVE`), the model of the Rust pass itself — the whole
`loop` — preserves behaviour. -/
theorem redundant_moves_preserve_wf {mc : Machine V M X} {amb : Reg → Bool} (hR : Respects mc amb)
    (hambv : ∀ x, amb x = true → x.isVirt = false) (P : List AOp) (hwf : movesWf amb P = true) :
    Equiv mc P (removeRedundantMoves P) :=
  movesLoop_equiv hR hambv _ P hwf

/-- `remove_redundant_ops`: deleting `NOOP`, `MOVE a a`, `MCP _ _ $zero`, `MCPI _ _ 0` preserves
behaviour — whenever the constant registers the op defines are not live after it (the
`def_const_registers ∩ next.use` guard of the code checks the next op only). -/
theorem redundant_ops_preserve {mc : Machine V M X} {amb : Reg → Bool} (hR : Respects mc amb) :
    Preserves mc (redundantOpsC amb) := by
  intro P Q h
  obtain ⟨hv, rfl⟩ := redundantOpsC_eq_some.1 h
  exact validDeleteAuto_sound hR hv

/-- `dce`: deleting side-effect-free ops whose `def ∪ def_const` registers are dead preserves
behaviour. -/
theorem asm_dce_preserves {mc : Machine V M X} {amb : Reg → Bool} (hR : Respects mc amb) :
    Preserves mc (dceC amb) := by
  intro P Q h
  obtain ⟨ks, _, hv, rfl⟩ := dceC_eq_some.1 h
  exact validDeleteAuto_sound hR hv

/-- `simplify_cfg`: deleting the ops the reachability worklist does not reach preserves behaviour
(for every machine: nothing is assumed about the meaning of the ops). -/
theorem asm_simplify_cfg_preserves (mc : Machine V M X) : Preserves mc simplifyCfgC := by
  intro P Q h
  obtain ⟨ks, _, hv, rfl⟩ := simplifyCfgC_eq_some.1 h
  exact validUnreach_sound mc hv

theorem seqPasses_preserves {mc : Machine V M X} (fs : List Pass) (h : ∀ f ∈ fs, Preserves mc f) :
    Preserves mc (seqPasses fs) := by
  induction fs with
  | nil =>
    intro P Q hq
    cases hq
    exact Equiv.refl mc _
  | cons f fs ih =>
    intro P Q hq
    obtain ⟨R, hf, hq⟩ := Option.bind_eq_some_iff.1 (show (f P).bind (seqPasses fs) = some Q from hq)
    exact (h f List.mem_cons_self P R hf).trans
      (ih (fun g hg => h g (List.mem_cons_of_mem _ hg)) R Q hq)

/-- `optLoop` returns its argument or what some double applications of `f` made of it, and never a
longer list. -/
theorem optLoop_spec {mc : Machine V M X} {f : Pass} (h : Preserves mc f) (n : Nat) (P Q : List AOp)
    (hq : optLoop f n P = some Q) : Equiv mc P Q ∧ Q.length ≤ P.length := by
  induction n generalizing P with
  | zero =>
    cases hq
    exact ⟨Equiv.refl mc _, Nat.le_refl _⟩
  | succ n ih =>
    rw [optLoop] at hq
    cases h2 : (f P).bind f with
    | none => rw [h2] at hq; cases hq
    | some R2 =>
      obtain ⟨R, hR, hR2⟩ := Option.bind_eq_some_iff.1 h2
      have e : Equiv mc P R2 := (h P R hR).trans (h R R2 hR2)
      simp only [h2] at hq
      split at hq
      next hl => cases hq; exact ⟨e, Nat.le_of_eq hl⟩
      next =>
        split at hq
        next => cases hq; exact ⟨Equiv.refl mc _, Nat.le_refl _⟩
        next =>
          obtain ⟨e', hl⟩ := ih R2 hq
          exact ⟨e.trans e', by omega⟩

/-- The round loop of `optimize`: if every pass of the list preserves behaviour, so do one
application of the list (`Opt0`) and the fixpoint loop over double applications (`Opt1`) — which
moreover never returns a longer op list ("never accept worse"). -/
theorem optimize_round_preserves {mc : Machine V M X} (fs : List Pass)
    (h : ∀ f ∈ fs, Preserves mc f) (n : Nat) :
    Preserves mc (seqPasses fs) ∧ Preserves mc (optLoop (seqPasses fs) n) ∧
    ∀ P Q, optLoop (seqPasses fs) n P = some Q → Q.length ≤ P.length :=
  have hs := seqPasses_preserves fs h
  ⟨hs, fun P Q hq => (optLoop_spec hs n P Q hq).1, fun P Q hq => (optLoop_spec hs n P Q hq).2⟩

/-- PARTIAL. `AbstractInstructionSet::optimize` at both levels preserves behaviour PROVIDED the two
passes that are not modelled — `const_indexing_aggregates_function` (`cidx`) and
`constant_propagate` (`cprop`) — do. Missing for the full property: a model and a proof of these
two passes (they are validated per program on the VM only), and a proof that the certificates of
the five modelled passes always exist on compiler-generated op lists (checked on every
correspondence case instead). -/
theorem C07_partial {mc : Machine V M X} {amb : Reg → Bool} (hR : Respects mc amb)
    (hambv : ∀ x, amb x = true → x.isVirt = false) (cidx cprop : Pass)
    (hidx : Preserves mc cidx) (hprop : Preserves mc cprop) :
    Preserves mc (optimize0 amb cidx cprop) ∧ Preserves mc (optimize1 amb cidx cprop) := by
  have hall : ∀ f ∈ [cidx, cprop, dceC amb, simplifyCfgC, seqJumpC amb, redundantMovesC amb,
      redundantOpsC amb], Preserves mc f := by
    intro f hf
    simp only [List.mem_cons, List.mem_nil_iff, or_false] at hf
    rcases hf with rfl | rfl | rfl | rfl | rfl | rfl | rfl
    · exact hidx
    · exact hprop
    · exact asm_dce_preserves hR
    · exact asm_simplify_cfg_preserves mc
    · exact seqjump_preserves hR
    · exact redundant_moves_preserve hR hambv
    · exact redundant_ops_preserve hR
  exact ⟨seqPasses_preserves _ hall, (optimize_round_preserves _ hall _).2.1⟩

/-! ### the certificate cannot be dropped -/

/-- `$err := 1`; `NOOP`; a label; log `$err`; stop. -/
def flagsP : List AOp := [
  { kind := .other "SETERR" (some 1), defs := [], uses := [], defConst := [.const 8], sideEffect := false },
  noopOp,
  { kind := .label 7, defs := [], uses := [] },
  { kind := .other "LOG" none, defs := [], uses := [.const 8], defConst := [], sideEffect := true },
  { kind := .rvrt, defs := [], uses := [.const 0], sideEffect := true } ]

/-- `$err := 1`; jump to the next op; its label; log `$err`; stop. -/
def flagsJ : List AOp := [
  { kind := .other "SETERR" (some 1), defs := [], uses := [], defConst := [.const 8], sideEffect := false },
  { kind := .jump 7, defs := [], uses := [] },
  { kind := .label 7, defs := [], uses := [] },
  { kind := .other "LOG" none, defs := [], uses := [.const 8], defConst := [], sideEffect := true },
  { kind := .rvrt, defs := [], uses := [.const 0], sideEffect := true } ]

/-- The guard of `remove_redundant_ops` (the NEXT op uses none of the constant registers the op
defines) and the test of `remove_sequential_jumps` do not by themselves justify the rewrite: on a
machine that satisfies `Respects`, the model passes change the behaviour of `flagsP` / `flagsJ`
(the log records `$err` = 1 instead of 0). The certified passes refuse both. Confirmed on the real
compiler and VM for `remove_redundant_ops` (replay: `/verif/corpus/c07_flags.sw`). -/
theorem C07_flags_guard_insufficient :
    Respects demo ambReal ∧
    ¬ Equiv demo flagsP (removeRedundantOps flagsP) ∧
    ¬ Equiv demo flagsJ (removeSequentialJumps flagsJ) ∧
    redundantOpsC ambReal flagsP = none ∧ seqJumpC ambReal flagsJ = none := by
  refine ⟨demo_respects _, ?_, ?_, by decide +kernel, by decide +kernel⟩
  · intro h
    obtain ⟨n, hn⟩ := (h (fun _ => 0) [] (.exit 0 [0, 0])).1 ⟨5, by decide +kernel⟩
    have h4 : run demo (removeRedundantOps flagsP) 4 ⟨0, fun _ => 0, []⟩ = some (.exit 0 [0, 1]) := by
      decide +kernel
    have := run_det hn h4
    exact absurd this (by decide +kernel)
  · intro h
    obtain ⟨n, hn⟩ := (h (fun _ => 0) [] (.exit 0 [0, 1])).1 ⟨5, by decide +kernel⟩
    have h5 : run demo (removeSequentialJumps flagsJ) 5 ⟨0, fun _ => 0, []⟩ = some (.exit 0 [0, 0]) := by
      decide +kernel
    have := run_det hn h5
    exact absurd this (by decide +kernel)

/-! ### non-vacuity -/

/-- a dead `ADD`, an unreachable tail, a sequential jump, a dead `MOVE`, a `NOOP` -/
def sampleP : List AOp := [
  { kind := .label 0, defs := [], uses := [] },
  { kind := .other "MOVI" (some 5), defs := [.virt 0], uses := [], defConst := [.const 2, .const 8], sideEffect := false },
  { kind := .other "ADD" none, defs := [.virt 1], uses := [.virt 0, .virt 0], defConst := [.const 2, .const 8], sideEffect := false },
  { kind := .move, defs := [.virt 2], uses := [.virt 0], defConst := [.const 2, .const 8], sideEffect := false },
  noopOp,
  { kind := .jump 1, defs := [], uses := [] },
  { kind := .label 1, defs := [], uses := [] },
  { kind := .other "LOG" none, defs := [], uses := [.virt 0], defConst := [], sideEffect := true },
  { kind := .rvrt, defs := [], uses := [.const 0], sideEffect := true },
  { kind := .other "LOG" none, defs := [], uses := [.virt 0], defConst := [], sideEffect := true } ]

/-- the hypotheses are satisfiable, every certified pass answers on `sampleP` and changes it -/
example : Respects demo ambReal ∧ (∀ x, ambReal x = true → x.isVirt = false) :=
  ⟨demo_respects _, fun x h => by cases x <;> simp_all [ambReal, Reg.isVirt]⟩

example : movesWf ambReal sampleP = true := by decide +kernel
example : (dceC ambReal sampleP).map List.length = some 7 := by decide +kernel
example : (simplifyCfgC sampleP).map List.length = some 9 := by decide +kernel
example : (seqJumpC ambReal sampleP).map (fun Q => Q[5]?.map (·.kind)) = some (some (.other "NOOP" none)) := by decide +kernel
example : (redundantMovesC ambReal sampleP).map (fun Q => Q[3]?.map (·.kind)) = some (some (.other "NOOP" none)) := by decide +kernel
example : (redundantOpsC ambReal sampleP).map List.length = some 9 := by decide +kernel
example : ((optimize1 ambReal some some sampleP).map List.length) = some 5 := by decide +kernel

end SwayVerif.C07
