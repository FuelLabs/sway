import SwayVerif.Model.Toposort
import SwayVerif.Lemmas.Toposort
/-!
# C22 — Build order respects dependencies

Model: `SwayVerif/Model/Toposort.lean` — `forc_pkg::compilation_order` = petgraph 0.6.5
`algo::toposort(Reversed(&graph))` transliterated (explicit-stack DFS with `discovered`/`finished`
producing `finish_stack`, its reversal, the verification loop on the reversed graph), over the
package graph `n` nodes + edge list in `add_edge` order, edge `(a, b)` = "a depends on b".

All theorems are for ALL package graphs (any size, parallel edges, self-loops, any insertion
order). `g.wf` (every edge endpoint is a node) is the invariant of the Rust `Graph` type
(`add_edge` panics otherwise).
-/
namespace SwayVerif.C22
open SwayVerif.Toposort

/-- An `Ok(order)`: every dependency edge `a → b` ("a depends on b") has both packages in the order
and `b` strictly before `a`. -/
theorem toposort_ok_sound (g : PkgGraph) (order : List Nat) (h : compilationOrder g = .ok order) :
    ∀ a b, (a, b) ∈ g.edges → a ∈ order ∧ b ∈ order ∧ order.idxOf b < order.idxOf a := by
  obtain ⟨hw, _, hmem, hidx⟩ := compilationOrder_ok h
  intro a b he
  exact ⟨(hmem a).mpr (wf_edge hw he).1, (hmem b).mpr (wf_edge hw he).2, hidx a b he⟩

/-- … and through chains: whatever `a` depends on transitively comes before `a`. -/
theorem toposort_ok_sound_trans (g : PkgGraph) (order : List Nat) (h : compilationOrder g = .ok order)
    (a b : Nat) (hd : DependsOn g a b) : order.idxOf b < order.idxOf a :=
  dependsOn_idx (compilationOrder_ok h).2 hd

/-- No package is listed twice. -/
theorem order_nodup (g : PkgGraph) (order : List Nat) (h : compilationOrder g = .ok order) : order.Nodup :=
  (compilationOrder_ok h).2.1

/-- Every package is listed exactly once, and nothing else is listed. -/
theorem order_complete (g : PkgGraph) (order : List Nat) (h : compilationOrder g = .ok order) :
    (∀ v, v < g.n → order.count v = 1) ∧ (∀ v ∈ order, v < g.n) ∧ order.length = g.n := by
  obtain ⟨_, hnd, hmem, _⟩ := compilationOrder_ok h
  refine ⟨fun v hv => by rw [hnd.count, if_pos ((hmem v).mpr hv)], fun v hv => (hmem v).mp hv, ?_⟩
  -- a duplicate-free list with the same members as `range n` has `n` elements
  have h1 : order.length ≤ g.n := by
    have := List.Nodup.length_le_of_subset hnd (l₂ := List.range g.n) (fun v hv => List.mem_range.mpr ((hmem v).mp hv))
    simpa using this
  have h2 : g.n ≤ order.length := by
    have := List.Nodup.length_le_of_subset (List.nodup_range (n := g.n)) (l₂ := order)
      (fun v hv => (hmem v).mpr (List.mem_range.mp hv))
    simpa using this
  omega

/-- A graph with a dependency cycle (self-loops included) is rejected: planning fails with the cycle error. -/
theorem cyclic_imp_error (g : PkgGraph) (hw : g.wf = true) (hc : Cyclic g) : compilationOrder g = .cycle := by
  rcases compilationOrder_total hw with h | ⟨order, h⟩
  · exact h
  · exact absurd (compilationOrder_ok h).2 (cyclic_no_order hc order)

/-- An acyclic graph is never rejected (the harder direction: the DFS finishing order passes
petgraph's own verification phase; no fuel exhaustion, no panic). -/
theorem acyclic_imp_ok (g : PkgGraph) (hw : g.wf = true) (hc : ¬ Cyclic g) :
    ∃ order, compilationOrder g = .ok order := by
  obtain ⟨order, h⟩ := toposort_acyclic (reversed_WF hw) fun a hp => hc ⟨a, path_reversed hp⟩
  exact ⟨order, by simp [compilationOrder, hw, h]⟩

/-- The decidable checker the driver runs on the REAL output is exactly the specification. -/
theorem isTopoOrder_sound (g : PkgGraph) (order : List Nat) :
    isTopoOrder g order = true ↔ IsTopoOrder g order := by
  simp only [isTopoOrder, IsTopoOrder, Bool.and_eq_true, nodupB_iff, List.all_eq_true, decide_eq_true_eq,
    List.mem_range, List.contains_iff_mem]
  constructor
  · rintro ⟨⟨⟨h1, h2⟩, h3⟩, h4⟩
    exact ⟨h1, fun v => ⟨h2 v, h3 v⟩, fun a b he => h4 (a, b) he⟩
  · rintro ⟨h1, h2, h3⟩
    exact ⟨⟨⟨h1, fun v hv => (h2 v).mp hv⟩, fun v hv => (h2 v).mpr hv⟩, fun e he => h3 e.1 e.2 he⟩

/-- A cyclic graph has no valid order at all, so the predicate can only accept an error for it. -/
theorem cyclic_no_topo_order (g : PkgGraph) (hc : Cyclic g) (order : List Nat) : isTopoOrder g order = false := by
  cases h : isTopoOrder g order with
  | false => rfl
  | true => exact absurd ((isTopoOrder_sound g order).mp h) (cyclic_no_order hc order)

/-- The executable cycle test used by `propHolds` for `Err` answers is exact. -/
theorem hasCycle_iff (g : PkgGraph) (hw : g.wf = true) : hasCycle g = true ↔ Cyclic g := by
  unfold hasCycle
  constructor
  · intro h
    apply Classical.byContradiction
    intro hc
    obtain ⟨order, ho⟩ := acyclic_imp_ok g hw hc
    simp [ho] at h
  · intro hc
    simp [cyclic_imp_error g hw hc]

/-- What `prop=1` of the driver means for the implementation's answer. -/
theorem propHolds_sound (g : PkgGraph) (impl : Impl) (h : propHolds g impl = true) :
    match impl with
    | some order => IsTopoOrder g order ∧ ¬ Cyclic g
    | none => Cyclic g := by
  simp only [propHolds, Bool.and_eq_true] at h
  obtain ⟨hw, h⟩ := h
  cases impl with
  | some order =>
    have ht := (isTopoOrder_sound g order).mp h
    exact ⟨ht, fun hc => cyclic_no_order hc order ht⟩
  | none => exact (hasCycle_iff g hw).mp h

/-- The model itself satisfies the predicate on every well-formed graph. -/
theorem C22_prop_of_model (g : PkgGraph) (hw : g.wf = true) :
    propHolds g (match compilationOrder g with | .ok order => some order | _ => none) = true := by
  rcases compilationOrder_total hw with h | ⟨order, h⟩
  · simp [propHolds, hw, h, hasCycle]
  · simp [propHolds, hw, h, (isTopoOrder_sound g order).mpr (compilationOrder_ok h).2]

/-- C22: for every acyclic package graph the compilation order lists every package exactly once and
every dependency before all of its dependents; for every cyclic graph planning fails with an error
instead of producing an order. -/
theorem C22 (g : PkgGraph) (hw : g.wf = true) :
    (¬ Cyclic g → ∃ order, compilationOrder g = .ok order ∧ IsTopoOrder g order) ∧
    (Cyclic g → compilationOrder g = .cycle) := by
  refine ⟨fun hc => ?_, cyclic_imp_error g hw⟩
  obtain ⟨order, h⟩ := acyclic_imp_ok g hw hc
  exact ⟨order, h, (compilationOrder_ok h).2⟩

/-! Non-vacuity: one instance per hypothesis shape. -/
example : compilationOrder ⟨3, [(0, 1), (1, 2), (0, 2)]⟩ = .ok [2, 1, 0] := by decide +kernel
example : compilationOrder ⟨3, [(0, 1), (1, 2), (2, 0)]⟩ = .cycle := by decide +kernel
example : compilationOrder ⟨2, [(1, 1)]⟩ = .cycle := by decide +kernel
example : Cyclic ⟨3, [(0, 1), (1, 2), (2, 0)]⟩ :=
  ⟨0, .trans (b := 1) (by decide) (.trans (b := 2) (by decide) (.direct (by decide)))⟩
example : isTopoOrder ⟨3, [(0, 1), (1, 2), (0, 2)]⟩ [2, 1, 0] = true := by decide +kernel
example : isTopoOrder ⟨3, [(0, 1), (1, 2), (0, 2)]⟩ [0, 1, 2] = false := by decide +kernel
example : (⟨3, [(0, 1), (1, 2), (0, 2)]⟩ : PkgGraph).wf = true := by decide +kernel

end SwayVerif.C22
