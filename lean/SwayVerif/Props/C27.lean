import SwayVerif.Model.StdSpec
import SwayVerif.Lemmas.StdNum
import SwayVerif.Lemmas.StdVec
/-!
# C27 — Std collections and wide integers agree with reference models

The theorems are about the TRANSCRIPTIONS of `sway-lib-std` in `Model/StdNum.lean` / `Model/StdVec.lean` over the
FuelVM ALU model `Model/Word.lean`; that the transcriptions are what the compiled std does on the VM is checked on
every run by the correspondence harness (`agree`), which also evaluates the reference models on the VM's own
results (`prop`).
-/
namespace SwayVerif.C27
open SwayVerif.Word SwayVerif.StdNum SwayVerif.StdVec SwayVerif.StdSpec

/-! ## U128 (two 64-bit limbs) under the default flags -/

/-- `U128 + U128`: exact when the sum fits in 128 bits, otherwise the assertion fails (revert). -/
theorem u128_add_spec (a b : U128) (ha : a.wf) (hb : b.wf) :
    U128.add {} a b = if a.toNat + b.toNat < 2 ^ 128 then .ok (U128.ofNat (a.toNat + b.toNat))
      else .revert StdNum.FAILED_ASSERT :=
  U128.add_nowrap rfl a b ha hb

/-- `U128 - U128`: exact when `b ≤ a`, otherwise revert. -/
theorem u128_sub_spec (a b : U128) (ha : a.wf) (hb : b.wf) :
    U128.sub {} a b = if b.toNat ≤ a.toNat then .ok (U128.ofNat (a.toNat - b.toNat))
      else .revert StdNum.FAILED_ASSERT :=
  U128.sub_nowrap rfl a b ha hb

/-- `U128 * U128`: exact when the product fits in 128 bits; reverts (failed assertion or VM overflow
panic) exactly when it does not. -/
theorem u128_mul_spec (a b : U128) (ha : a.wf) (hb : b.wf) :
    (a.toNat * b.toNat < 2 ^ 128 → U128.mul {} a b = .ok (U128.ofNat (a.toNat * b.toNat))) ∧
    (2 ^ 128 ≤ a.toNat * b.toNat → (U128.mul {} a b).reverts = true) := by
  rw [U128.mul_dflt a b ha hb]
  refine ⟨fun h => if_pos h, fun h => ?_⟩
  rw [if_neg (Nat.not_lt.mpr h)]
  split <;> rfl

/-- `U128 / U128`, the part proved: division by zero reverts, and when both operands fit in one limb the
quotient is exact. PARTIAL: the 128-iteration shift-subtract loop (`divLoop`) is transcribed and tied by
correspondence only; its invariant `q*d + r = n >> i ∧ r < d` (incl. that `remainder <<= 1` never loses
a bit) is not proved here. -/
theorem u128_div_spec_partial (a b : U128) (_ha : a.wf) (_hb : b.wf) :
    (b.toNat = 0 → U128.div {} a b = .revert StdNum.FAILED_ASSERT) ∧
    (b.toNat ≠ 0 → a.upper = 0 → b.upper = 0 → U128.div {} a b = .ok (U128.ofNat (a.toNat / b.toNat))) := by
  obtain ⟨au, al⟩ := a
  obtain ⟨bu, bl⟩ := b
  constructor
  · intro h
    obtain ⟨h1, rfl⟩ := Nat.add_eq_zero_iff.mp h
    obtain rfl : bu = 0 := (Nat.mul_eq_zero.mp h1).resolve_right (by decide)
    rfl
  · intro h hau hbu
    simp only at hau hbu
    subst hau; subst hbu
    simp only [U128.toNat, Nat.zero_mul, Nat.zero_add] at h ⊢
    have hq : al / bl < W64 := Nat.lt_of_le_of_lt (Nat.div_le_self _ _) _ha.2
    have hbl : (bl == 0) = false := beq_false_of_ne h
    simp [U128.div, U128.eq, U128.zero, u64Div, Word.div, aluError, hbl, U128.ofNat, Nat.mod_eq_of_lt hq,
      Nat.div_eq_of_lt hq]

/-! ## square root -/

/-- `u256::sqrt` (Newton iteration): for every 256-bit `n`, under any flags, the transcribed loop
terminates within its fuel, `x0 + n / x0` never overflows, and the result `r` is the floor square root:
`r*r ≤ n < (r+1)*(r+1)`. -/
theorem sqrt_floor (fl : Flags) (n : Nat) (hn : n < 2 ^ 256) :
    ∃ r, u256Sqrt fl n = .ok r ∧ r * r ≤ n ∧ n < (r + 1) * (r + 1) :=
  ⟨Nat.sqrt n, u256Sqrt_eq fl (Nat.sqrt_le n) (Nat.lt_succ_sqrt n) hn, Nat.sqrt_le n, Nat.lt_succ_sqrt n⟩

/-- `u64/u32/u16/u8::sqrt` is the single instruction `mroo _ _ 2`, whose model is `Nat.sqrt`. -/
theorem u64_sqrt_floor (fl : Flags) (n : Nat) :
    ∃ r, u64Sqrt fl n = .ok r ∧ r * r ≤ n ∧ n < (r + 1) * (r + 1) :=
  ⟨Nat.sqrt n, by simp [u64Sqrt, Word.mroo, aluError, nthRoot], Nat.sqrt_le n, Nat.lt_succ_sqrt n⟩

/-! ## pow -/

/-- `u256::pow` (square-and-multiply with `wqml`): exact when `x^e` fits in 256 bits; otherwise a VM
overflow panic under default flags and `0` when panic-on-overflow is disabled. -/
theorem pow_spec (fl : Flags) (x e : Nat) (he : e < 2 ^ 32) :
    u256Pow fl x e = if x ^ e < 2 ^ 256 then .ok (x ^ e)
      else if fl.wrapping then .ok 0 else .panic .arithmeticOverflow :=
  u256Pow_eq fl x e he

/-- `u64::pow` (the `exp` instruction): same statement at 64 bits. -/
theorem u64_pow_spec (fl : Flags) (x e : Nat) :
    u64Pow fl x e = if x ^ e < 2 ^ 64 then .ok (x ^ e)
      else if fl.wrapping then .ok 0 else .panic .arithmeticOverflow :=
  u64Pow_eq fl x e

/-- `u32/u16/u8::pow` under default flags: exact when the power fits the narrow type, reverts otherwise
(`revert(0)` from the range check, or the VM panic when even 64 bits overflow). -/
theorem narrow_pow_spec (maxv x e : Nat) (hm : maxv < 2 ^ 64) :
    (x ^ e ≤ maxv → narrowPow {} maxv x e = .ok (x ^ e)) ∧
    (maxv < x ^ e → (narrowPow {} maxv x e).reverts = true) := by
  have hm' : maxv < W64 := hm
  constructor
  · intro h
    have h1 : x ^ e < W64 := by omega
    simp only [narrowPow, u64Pow_eq, h1, ↓reduceIte, Res.ok_bind]
    rw [if_neg (by omega)]; rfl
  · intro h
    by_cases h1 : x ^ e < W64
    · simp only [narrowPow, u64Pow_eq, h1, ↓reduceIte, Res.ok_bind, h, panicOnOverflowEnabled_dflt]; rfl
    · simp only [narrowPow, u64Pow_eq, h1, ↓reduceIte, overflowOutcome]; rfl

/-! ## log -/

/-- `u64/u32/u16/u8::log` is the instruction `mlog`: with panic-on-unsafe-math enabled it panics for
`x = 0` or `base ≤ 1`, and otherwise returns `L` with `base^L ≤ x < base^(L+1)`. -/
theorem u64_log_spec (fl : Flags) (hf : fl.unsafeMath = false) (x b : Nat) (hx : x < 2 ^ 64) :
    (x = 0 ∨ b ≤ 1 → U128.u64Log fl x b = .panic .arithmeticError) ∧
    (1 ≤ x → 2 ≤ b → ∃ L, U128.u64Log fl x b = .ok L ∧ b ^ L ≤ x ∧ x < b ^ (L + 1)) := by
  constructor
  · intro h; rw [u64Log_safe fl hf, if_pos h]
  · intro h1 h2
    have : ¬ (x = 0 ∨ b ≤ 1) := by omega
    obtain ⟨i1, i2⟩ := ilogAux_spec b h2 64 x h1 hx
    exact ⟨ilog b x, by rw [u64Log_safe fl hf, if_neg this], i1, i2⟩

/-- `u256::log2` under default flags: reverts on 0, otherwise `2^r ≤ n < 2^(r+1)`. -/
theorem log2_spec (n : Nat) (hn : n < 2 ^ 256) :
    (n = 0 → u256Log2 {} n = .revert StdNum.FAILED_ASSERT) ∧
    (n ≠ 0 → ∃ r, u256Log2 {} n = .ok r ∧ 2 ^ r ≤ n ∧ n < 2 ^ (r + 1)) := by
  constructor
  · intro h; rw [u256Log2_safe {} rfl n hn, if_pos h]
  · intro h
    exact ⟨Nat.log2 n, by rw [u256Log2_safe {} rfl n hn, if_neg h], Nat.log2_self_le h, Nat.lt_log2_self⟩

/-- `u256::log` under default flags (the code after the `fix:` commit): reverts for `base < 2` or
`self = 0`; otherwise the estimate `log2(self)/log2(base)` is an over-estimate, the correction loop
terminates within its fuel and returns the floor logarithm `L`: `base^L ≤ self < base^(L+1)`. -/
theorem log_spec (x b : Nat) (hx : x < 2 ^ 256) (hb : b < 2 ^ 256) :
    (b < 2 ∨ x = 0 → u256Log {} x b = .revert StdNum.FAILED_ASSERT) ∧
    (2 ≤ b → 1 ≤ x → ∃ L, u256Log {} x b = .ok L ∧ b ^ L ≤ x ∧ x < b ^ (L + 1)) :=
  u256Log_safe {} rfl x b hx hb

/-! ## collections -/

/-- Every operation of the `{buf, cap, len}` machine refines the `List` operation: under the
representation invariant `len ≤ cap = |buf|`, if the list operation is defined the machine returns the
same observations, re-establishes the invariant and its contents are the new list; if the list operation
is undefined (index out of bounds) the machine reverts with the failed-assertion code. In particular no
access ever leaves the allocation. -/
theorem vec_refines_list (v : Vec) (op : Op) (h : inv v) :
    match specStep (abs v) op with
    | some (l', o) => ∃ v', step v op = .ok (v', o) ∧ inv v' ∧ abs v' = l'
    | none => step v op = .revert StdVec.FAILED_ASSERT := by
  cases op with
  | push x => exact push_step v x h
  | pop => exact pop_step v h
  | get i => exact get_step v i h
  | set i x => exact set_step v i x h
  | insert i x => exact insert_step v i x h
  | remove i => exact remove_step v i h
  | swap i j => exact swap_step v i j h
  | clear => exact ⟨v.clear, rfl, ⟨Nat.zero_le _, h.2⟩, rfl⟩
  | len => exact ⟨v, by rw [abs_length v h]; rfl, h, rfl⟩
  | isEmpty => exact ⟨v, by rw [abs_length v h]; rfl, h, rfl⟩
  | last => exact last_step v h
  | resize n x => exact resize_step v n x h
  | iter => exact iter_step v h
  | append xs => exact append_step v xs h
  | splitAt mid => exact splitAt_step v mid h
  | fromSlice xs => exact ⟨⟨xs, xs.length, xs.length⟩, rfl, ⟨Nat.le_refl _, rfl⟩, List.take_length⟩

/-- Histories: for every operation sequence, the machine's observations equal the `List` model's, and the
machine stops with a revert exactly where the `List` model says an operation is undefined; the VM-panic
and out-of-fuel outcomes never occur. Covers `Vec<u64>`, `Bytes` (cells are bytes) and `String`
(`fromSlice`, `clear`, `len`, `isEmpty`, `iter` = `as_bytes`). -/
theorem vec_history (v : Vec) (ops : List Op) (h : inv v) :
    (run v ops).1 = (specRun (abs v) ops).1 ∧
    ((run v ops).2 = none ↔ (specRun (abs v) ops).2 = false) ∧
    ((specRun (abs v) ops).2 = true → (run v ops).2 = some (.revert StdVec.FAILED_ASSERT)) := by
  induction ops generalizing v with
  | nil => simp [run, specRun]
  | cons op ops ih =>
    have hs := vec_refines_list v op h
    cases hspec : specStep (abs v) op with
    | none =>
      rw [hspec] at hs
      simp [run, specRun, hspec, hs]
    | some p =>
      rw [hspec] at hs
      obtain ⟨v', e1, e2, e3⟩ := hs
      have := ih v' e2
      rw [e3] at this
      simp only [run, specRun, hspec, e1]
      obtain ⟨t1, t2, t3⟩ := this
      exact ⟨by rw [t1], t2, t3⟩

/-- The empty vector satisfies the invariant and represents the empty list (so `vec_history` applies to
every test the harness generates). -/
theorem vec_new_inv : inv Vec.new ∧ abs Vec.new = [] ∧ ∀ c, inv (Vec.withCapacity c) ∧ abs (Vec.withCapacity c) = [] := by
  refine ⟨⟨Nat.le_refl _, by simp [Vec.new, alloc]⟩, by simp [StdVec.abs, Vec.new], ?_⟩
  intro c
  exact ⟨⟨Nat.zero_le _, by simp [Vec.withCapacity, alloc]⟩, by simp [StdVec.abs, Vec.withCapacity]⟩

/-! ## non-vacuity and regression witnesses -/

example : U128.add {} ⟨0, MAX64⟩ ⟨0, 1⟩ = .ok ⟨1, 0⟩ := by decide
example : U128.add {} ⟨MAX64, MAX64⟩ ⟨0, 1⟩ = .revert StdNum.FAILED_ASSERT := by decide
example : U128.sub {} ⟨1, 0⟩ ⟨0, 1⟩ = .ok ⟨0, MAX64⟩ := by decide
example : (U128.mul {} ⟨0, 2⟩ ⟨MAX64, 1⟩).reverts = true := by decide
example : u256Sqrt {} 17 = .ok 4 := by decide
/-- regression witness for the `log` defect: 3^5 = 243 ≤ 255 < 3^6 -/
example : u256Log {} 255 3 = .ok 5 := by decide
example : (run Vec.new [.push 1, .push 2, .remove 0, .iter, .remove 1]).1 = [1, 2, 1, 2, 1] := by decide

end SwayVerif.C27
