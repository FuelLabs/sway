import SwayVerif.Model.TestRun
import SwayVerif.Lemmas.TestRun
/-!
# C29 — Unit tests run isolated and report exactly their outcome

Model: `SwayVerif/Model/TestRun.lean` (`TestResult::passed`, `TestFilter::filter`,
`PackageTests::run_tests`, `TestExecutor::{build,execute}` of forc-test).

HONESTY NOTE. The model is THIN: a test is a pure function of the storage value it receives and
`runAll` hands every test the same setup storage (the real code re-deploys and clones per test and
gives every test its own `Interpreter`). So `C29_isolation`, `C29_permutation`, `C29_filter_independent`
hold *by construction of the model*; they say what the runner's structure guarantees, and
`C29_shared_not_isolated` shows the same statement is false for the one-line variant that threads a
single storage through the tests. That the REAL runner has the modelled structure is established
only by the correspondence check (generated suites run whole / filtered / permuted / alone on the
real FuelVM, see `harness/src/bin/sv_c29.rs`), not by these theorems. `passed_iff_expectation` and
`filter_sound` are about code that is transliterated arm by arm and are not thin.
-/
namespace SwayVerif.C29
open SwayVerif.TestRun

/-! ## "reports exactly its outcome" -/

/-- A test is reported as passed exactly when its execution matches the declared expectation:
no revert (plain `#[test]`), some revert (`should_revert`), revert with exactly the declared code
(`should_revert = "c"`). All conditions × all terminal states. -/
theorem passed_iff_expectation (c : Condition) (s : State) : passed c s = true ↔ Matches c s := by
  cases c with
  | shouldNotRevert => cases s <;> simp [passed, Matches]
  | shouldRevert code =>
    cases code with
    | none => cases s <;> simp [passed, Matches]
    | some d => simp [passed, Matches]

/-- The executable specification used by the driver on the real results is the same specification. -/
theorem expected_iff_expectation (c : Condition) (s : State) : expected c s = true ↔ Matches c s := by
  cases c with
  | shouldNotRevert => cases s <;> simp [expected, revertCode, Matches]
  | shouldRevert code =>
    cases code with
    | none => cases s <;> simp [expected, revertCode, Matches]
    | some d => cases s <;> simp [expected, revertCode, Matches]

theorem passed_eq_expected (c : Condition) (s : State) : passed c s = expected c s := by
  rw [Bool.eq_iff_iff, passed_iff_expectation, expected_iff_expectation]

/-- A VM-level error is reported as `Revert(0)`: such a test passes iff it is marked `should_revert`
without a code or with code 0, and fails a plain `#[test]`. -/
theorem vm_error_reported_as_revert0 (c : Condition) :
    passed c (stateOf .error) = true ↔ (c = .shouldRevert none ∨ c = .shouldRevert (some 0)) := by
  cases c with
  | shouldNotRevert => simp [passed, stateOf]
  | shouldRevert code =>
    cases code with
    | none => simp [passed, stateOf]
    | some d => simp [passed, stateOf, eq_comm]

/-! ## Isolation (thin — see the note above) -/

/-- Every reported result is the result of running that test on the initial setup: the `i`-th
result of a (filtered) run equals `run` of the `i`-th selected test — no other test, nor the
position, enters. -/
theorem C29_isolation {σ : Type} (s : Setup σ) (ts : List (TestDecl σ)) (f : Option Filter) (i : Nat)
    (h : i < (runAll s ts f).length) :
    (runAll s ts f)[i] =
      run s ((ts.filter fun t => selected f t.name)[i]'(by simpa [runAll] using h)) := by
  simp [runAll]

/-- … hence it equals the result of running that test ALONE (a suite consisting of it only, no filter). -/
theorem C29_result_alone {σ : Type} (s : Setup σ) (ts : List (TestDecl σ)) (f : Option Filter)
    (r : Result) (h : r ∈ runAll s ts f) :
    ∃ t ∈ ts, selected f t.name = true ∧ r = run s t ∧ runAll s [t] none = [r] := by
  obtain ⟨t, ht, hs, rfl⟩ := (mem_runAll s ts f r).1 h
  exact ⟨t, ht, hs, rfl, rfl⟩

/-- `filter_sound`: exactly the matching tests are run, each once, in declaration order … -/
theorem filter_sound {σ : Type} (s : Setup σ) (ts : List (TestDecl σ)) (f : Option Filter) :
    (runAll s ts f).map (·.name) = (ts.map (·.name)).filter (selected f)
    ∧ ∀ r, r ∈ runAll s ts f ↔ ∃ t ∈ ts, selected f t.name = true ∧ r = run s t := by
  constructor
  · simp only [runAll, List.map_map, List.filter_map]
    rfl
  · exact mem_runAll s ts f

/-- … where an exact filter matches the name itself and nothing else, -/
theorem filter_exact (p n : List Char) : selected (some ⟨p, true⟩) n = true ↔ n = p := by
  simp [selected, Filter.matches]

/-- … a non-exact filter matches precisely the names containing the phrase as a substring, -/
theorem filter_contains (p n : List Char) :
    selected (some ⟨p, false⟩) n = true ↔ ∃ a b, n = a ++ p ++ b := by
  simp [selected, Filter.matches, contains_iff]

/-- … and no filter selects everything. -/
theorem filter_none (n : List Char) : selected none n = true := rfl

/-- Results do not depend on the declaration order: permuting the suite permutes the results. -/
theorem C29_permutation {σ : Type} (s : Setup σ) (ts ts' : List (TestDecl σ)) (f : Option Filter)
    (h : ts.Perm ts') : (runAll s ts f).Perm (runAll s ts' f) :=
  (h.filter _).map _

/-- Results do not depend on the filter: a test selected by two filters (or by none) gets the same
result in both runs, namely `run s t`. -/
theorem C29_filter_independent {σ : Type} (s : Setup σ) (ts : List (TestDecl σ)) (f g : Option Filter)
    (t : TestDecl σ) (ht : t ∈ ts) (hf : selected f t.name = true) (hg : selected g t.name = true) :
    run s t ∈ runAll s ts f ∧ run s t ∈ runAll s ts g := by
  exact ⟨(mem_runAll s ts f _).2 ⟨t, ht, hf, rfl⟩, (mem_runAll s ts g _).2 ⟨t, ht, hg, rfl⟩⟩

/-- Results do not depend on the OTHER tests of the suite: replace every other test by anything. -/
theorem C29_other_tests_irrelevant {σ : Type} (s : Setup σ) (pre pre' post post' : List (TestDecl σ))
    (t : TestDecl σ) :
    run s t ∈ runAll s (pre ++ t :: post) none ∧ run s t ∈ runAll s (pre' ++ t :: post') none :=
  ⟨(mem_runAll s _ none _).2 ⟨t, List.mem_append_right _ List.mem_cons_self, rfl, rfl⟩,
    (mem_runAll s _ none _).2 ⟨t, List.mem_append_right _ List.mem_cons_self, rfl, rfl⟩⟩

/-- The isolation statement is not vacuous: the runner that threads ONE storage through the tests
(instead of handing each test the setup storage) violates it — the second test sees the first
test's write. -/
theorem C29_shared_not_isolated :
    ∃ (ts : List (TestDecl Storage)) (st : Storage),
      runShared st ts ≠ runAll ⟨st⟩ ts none := by
  refine ⟨[opsTest ['a'] .shouldNotRevert [.write 0 5],
           opsTest ['b'] .shouldNotRevert [.expect 0 1, .read 0]], [1], ?_⟩
  decide

/-- Any schedule of the runner threads (rayon may interleave them arbitrarily): a thread that has been
given at least `ops.length + 1` steps has finished with exactly the outcome of running its test alone
on the setup storage, whatever the other threads did in between. -/
theorem C29_schedule (st : Storage) (tests : List (List Op)) (sched : List Nat) (i : Nat)
    (hi : i < tests.length) (hfair : tests[i].length + 1 ≤ sched.count i) :
    (runSched (tests.map fun ops => Thread.init ops st) sched)[i]? =
      some { ops := [], st := (exec tests[i] st []).2.2, logs := (exec tests[i] st []).2.1,
             res := some (exec tests[i] st []).1 } := by
  rw [runSched_get]
  simp only [List.getElem?_map, List.getElem?_eq_getElem hi, Option.map_some]
  obtain ⟨k, hk⟩ := Nat.exists_eq_add_of_le hfair
  rw [hk, Thread.steps_add]
  unfold Thread.init
  rw [Thread.steps_exec, Thread.steps_of_done _ _ rfl]

/-- The driver's per-run predicate accepts the model's own output (the predicate demands nothing the
model does not deliver). -/
theorem C29_prop_of_model (st : Storage) (decls : List (List Char × Condition × List Op))
    (f : Option Filter) (hnd : (decls.map (·.1)).Nodup) :
    suiteProp (decls.map fun d => (d.1, d.2.1)) f
      ((runAll ⟨st⟩ (decls.map fun d => opsTest d.1 d.2.1 d.2.2) f).map
        fun r => (r.name, r.cond, r.state, r.passed)) = true := by
  simp only [suiteProp, Bool.and_eq_true, decide_eq_true_eq, List.all_eq_true]
  constructor
  · have hsel : selectedSpec f = selected f := funext (selectedSpec_eq f)
    simp only [runAll, List.map_map, List.filter_map, hsel]
    rfl
  · intro r hr
    obtain ⟨r₀, hr₀, rfl⟩ := List.mem_map.1 hr
    obtain ⟨_, ht, _, rfl⟩ := (mem_runAll _ _ f r₀).1 hr₀
    obtain ⟨d, hd, rfl⟩ := List.mem_map.1 ht
    constructor
    · simp only [run, opsTest, beq_iff_eq]
      have hmem : (d.1, d.2.1) ∈ decls.map fun d => (d.1, d.2.1) := List.mem_map.mpr ⟨d, hd, rfl⟩
      have hnd' : ((decls.map fun d => (d.1, d.2.1)).map (·.1)).Nodup := by
        rw [List.map_map]; exact hnd
      exact lookup_of_mem_nodup _ hnd' _ _ hmem
    · exact beq_iff_eq.2 (passed_eq_expected _ _)

/-! ## Non-vacuity examples (one per hypothesis shape) -/

example : passed (.shouldRevert (some 7)) (.revert 7) = true ∧ passed (.shouldRevert (some 7)) (.revert 8) = false
    ∧ passed .shouldNotRevert .ret = true ∧ passed .shouldNotRevert (.revert 0) = false
    ∧ passed (.shouldRevert none) (.revert 3) = true ∧ passed (.shouldRevert none) .retData = false := by decide

example : selected (some ⟨['t', '1'], true⟩) ['t', '1', '0'] = false
    ∧ selected (some ⟨['t', '1'], false⟩) ['t', '1', '0'] = true
    ∧ selected (some ⟨['t', '1'], true⟩) ['t', '1'] = true := by decide

example : (runAll ⟨[1]⟩ [opsTest ['a'] .shouldNotRevert [.write 0 5],
    opsTest ['b'] .shouldNotRevert [.expect 0 1, .read 0]] none).map (·.passed) = [true, true] := by decide

example : [1, 0, 1, 0, 0, 1].count 0 ≥ [Op.log 1, Op.vmPanic].length + 1 := by decide

end SwayVerif.C29
