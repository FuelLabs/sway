import SwayVerif.Lemmas.Dispatch
/-!
# C11 — contract calls dispatch to the named method

Theorems about `Model/Dispatch.lean` (`buildTable` = the table-building loop of
`generate_contract_entry`, `dispatch` = the generated `__entry` cascade), for ALL method lists:
any number of methods, any names (shared prefixes, equal lengths, one name a substring of another or
of the concatenation of earlier ones, the empty name), in any order.

Scope. These theorems are the *dispatch* half of C11 (level `proof`). The other half — the callee sees
the decoded arguments and the caller gets the encoded result back — is the encode/decode round trip of
`std::codec` (`decode_from_raw_ptr ∘ encode = id` on the argument tuple and on the return value), which
is property C09's theorem (`decode_encode`); it is not re-proved here. End to end (real compiler, real
FuelVM, real `contract_call`/`__entry`) both halves are tied by translation validation in `sv_c11`:
every line carries `ran`, `args_ok`, `ret_ok` observed in the VM, and `propHolds` is evaluated on them.
-/
namespace SwayVerif.C11
open SwayVerif.Dispatch

/-- Every generated arm sits in the group of its own length, calls an existing method, and its
`(offset, len)` addresses exactly that method's name inside the `_method_names` literal (in bounds),
whether the name was appended or shares bytes found by `find`. -/
theorem table_offset_correct (ms : List Method) (k : Nat) (e : Entry)
    (h : (k, e) ∈ flatten (buildTable ms).groups) :
    ∃ hi : e.idx < ms.length,
      k = e.len ∧ e.len = ms[e.idx].name.length ∧
      slice (buildTable ms).names e.off e.len = some ms[e.idx].name := by
  obtain ⟨a, b, c, d⟩ := (buildTable_inv ms).arms k e h
  rw [nm_of_lt b, List.getElem_map] at c d
  exact ⟨List.length_map _ ▸ b, a, c, d⟩

/-- Every method has an arm. -/
theorem table_complete (ms : List Method) (i : Nat) (hi : i < ms.length) :
    ∃ k e, (k, e) ∈ flatten (buildTable ms).groups ∧ e.idx = i :=
  (buildTable_inv ms).covered i (by simpa using hi)

/-- The generated cascade never compares outside the names literal, and a method it runs bears the
called name (no hypothesis on the method list: holds even with duplicate names). -/
theorem C11_dispatch_sound (ms : List Method) (fb : Bool) (call : Bytes) :
    dispatch (buildTable ms) fb call ≠ .oob ∧
    ∀ i, dispatch (buildTable ms) fb call = .method i → ∃ hi : i < ms.length, ms[i].name = call := by
  rcases dispatch_buildTable ms fb call with ⟨i, hi, hc, h⟩ | ⟨_, h⟩
  · rw [h]
    exact ⟨nofun, fun j hj => by cases hj; exact ⟨hi, hc⟩⟩
  · rw [h]
    cases fb <;> exact ⟨nofun, nofun⟩

/-- **C11 (hit).** If the method names are pairwise distinct (the compiler rejects the contract
otherwise: `MultipleContractsMethodsWithTheSameName`), a call naming the `i`-th method runs exactly
the `i`-th method — with or without a fallback. -/
theorem C11_dispatch_hit (ms : List Method) (fb : Bool) (hnd : (ms.map (·.name)).Nodup)
    (i : Nat) (hi : i < ms.length) :
    dispatch (buildTable ms) fb ms[i].name = .method i := by
  rcases dispatch_buildTable ms fb ms[i].name with ⟨j, hj, hc, h⟩ | ⟨hn, _⟩
  · have : j = i := (List.getElem?_inj (by rwa [List.length_map]) hnd).1 (by simp [hi, hj, hc])
    exact this ▸ h
  · exact absurd (List.mem_map_of_mem (List.getElem_mem hi)) hn

/-- The same with the method given by membership: `m ∈ ms` is dispatched to (its position). -/
theorem C11_dispatch_hit_mem (ms : List Method) (fb : Bool) (hnd : (ms.map (·.name)).Nodup)
    (m : Method) (hm : m ∈ ms) :
    ∃ i, ms[i]? = some m ∧ dispatch (buildTable ms) fb m.name = .method i := by
  obtain ⟨i, hi, rfl⟩ := List.getElem_of_mem hm
  exact ⟨i, by simp [hi], C11_dispatch_hit ms fb hnd i hi⟩

/-- **C11 (miss).** A call naming no method of the contract runs the fallback if one is declared and
otherwise reverts. -/
theorem C11_dispatch_miss (ms : List Method) (fb : Bool) (call : Bytes)
    (hn : call ∉ ms.map (·.name)) :
    dispatch (buildTable ms) fb call = if fb then .fallback else .revert := by
  rcases dispatch_buildTable ms fb call with ⟨i, hi, hc, _⟩ | ⟨_, h⟩
  · exact absurd (hc ▸ List.mem_map_of_mem (List.getElem_mem hi)) hn
  · exact h

/-- The model satisfies the predicate that the driver evaluates on the implementation: for distinct
names and ANY called name, what `dispatch` runs is what `propHolds` demands. -/
theorem C11_prop_of_model (ms : List Method) (fb : Bool) (call : Bytes)
    (hnd : (ms.map (·.name)).Nodup) :
    propHolds ms fb call (dispatch (buildTable ms) fb call) true true = true := by
  unfold propHolds
  cases h : indexOfName call ms with
  | none => simp [C11_dispatch_miss ms fb call (indexOfName_none h)]
  | some i =>
    obtain ⟨hi, hc⟩ := indexOfName_some h
    subst hc
    simp [C11_dispatch_hit ms fb hnd i hi]

/-! Non-vacuity: the hypotheses are satisfiable by the adversarial shapes the property names, and the
conclusions are not trivially true (a concrete table and its dispatch, evaluated by the kernel). -/

-- names: "get", "get_a", "xaby", "ab", "b", "ge" — shared prefixes, equal lengths, `ab` ⊂ `xaby`,
-- `ab`, `b` found inside the literal built so far ("getget_axaby"), `ge` found as a prefix of `get`.
private def advMs : List Method :=
  [⟨[103, 101, 116]⟩, ⟨[103, 101, 116, 95, 97]⟩, ⟨[120, 97, 98, 121]⟩, ⟨[97, 98]⟩, ⟨[98]⟩, ⟨[103, 101]⟩]

example : (advMs.map (·.name)).Nodup := by decide +kernel
example : (buildTable advMs).names = [103, 101, 116, 103, 101, 116, 95, 97, 120, 97, 98, 121] := by decide +kernel
example : flatten (buildTable advMs).groups =
    [(1, ⟨1, 10, 4⟩), (2, ⟨2, 9, 3⟩), (2, ⟨2, 0, 5⟩), (3, ⟨3, 0, 0⟩), (4, ⟨4, 8, 2⟩), (5, ⟨5, 3, 1⟩)] := by
  decide +kernel
example : dispatch (buildTable advMs) false [103, 101] = .method 5 := by decide +kernel
example : dispatch (buildTable advMs) true [97, 120] = .fallback := by decide +kernel   -- "ax" occurs in the literal
example : dispatch (buildTable advMs) false [97, 120] = .revert := by decide +kernel
example : ([97, 120] : Bytes) ∉ advMs.map (·.name) := by decide +kernel

end SwayVerif.C11
