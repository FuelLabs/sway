import SwayVerif.Model.PassMgr
import SwayVerif.Generated.PassPipeline
/-!
# C02 — optimisation level never changes observable behaviour

What is proved here is the *composition* layer: `PassManager::run` (group flattening, the per-round loop, the
`rounds` loop with its early `break`) and the assembly optimiser's `MAX_OPT_ROUNDS` loop (with its "never accept
worse" early return) preserve the observable behaviour of a program **if every individual pass does**. The
passes themselves are abstract here (the kernels that are modelled are in C03/C06/C07); whether the real debug
and release builds of a program behave the same is decided per program by the C02 driver on the real VM.
-/
namespace SwayVerif.C02
open SwayVerif.PassMgr

section
variable {IR Obs : Type} (obs : IR → Obs)

/-- A pass preserves the observable behaviour (`obs`: return data, logs, revert status — gas, code size and
metadata are not part of `Obs` by construction) whenever it succeeds. -/
def Preserves (p : Pass IR) : Prop := ∀ ir ir' m, p.run ir = some (ir', m) → obs ir' = obs ir

/-- Whatever every registered pass of `names` maintains when it succeeds, the inner loop maintains. -/
theorem runPasses_invariant (P : IR → Prop) (lookup : Name → Option (Pass IR)) (names : List Name)
    (hp : ∀ n ∈ names, ∀ p, lookup n = some p → ∀ ir ir' m, p.run ir = some (ir', m) → P ir → P ir') :
    ∀ ir ir' m, runPasses lookup names ir = some (ir', m) → P ir → P ir' := by
  induction names with
  | nil => intro ir ir' m h h0; cases h; exact h0
  | cons n r ih =>
    intro ir ir' m h h0
    dsimp only [runPasses] at h
    split at h
    · cases h
    · next p hl =>
      split at h
      · cases h
      · next ir1 m1 hr =>
        split at h
        · cases h
        · next ir2 m2 hrest =>
          cases h
          exact ih (fun n' hn' => hp n' (List.mem_cons_of_mem _ hn')) ir1 _ m2 hrest
            (hp n List.mem_cons_self p hl ir ir1 m1 hr h0)

/-- … and so does the outer loop, for any number of rounds. -/
theorem runRounds_invariant (P : IR → Prop) (lookup : Name → Option (Pass IR)) (names : List Name)
    (hp : ∀ n ∈ names, ∀ p, lookup n = some p → ∀ ir ir' m, p.run ir = some (ir', m) → P ir → P ir') (k : Nat) :
    ∀ ir ir' m, runRounds lookup names k ir = some (ir', m) → P ir → P ir' := by
  induction k with
  | zero => intro ir ir' m h h0; cases h; exact h0
  | succ k ih =>
    intro ir ir' m h h0
    dsimp only [runRounds] at h
    split at h
    · cases h
    · next ir1 m1 hr =>
      have h1 : P ir1 := runPasses_invariant P lookup names hp ir ir1 m1 hr h0
      split at h
      · split at h
        · cases h
        · next ir2 m2 hk => cases h; exact ih ir1 _ m2 hk h1
      · cases h; exact h1

/-- **Composition.** If every pass that occurs in the (nested) pass group preserves the observable behaviour,
so does `PassManager::run` with any number of rounds — whenever it produces IR at all. -/
theorem pipeline_preserves_of_passes (lookup : Name → Option (Pass IR)) (group : List PassOrGroup) (rounds : Nat)
    (hp : ∀ n ∈ flatten group, ∀ p, lookup n = some p → Preserves obs p) :
    ∀ ir ir' m, runPipeline lookup group rounds ir = some (ir', m) → obs ir' = obs ir :=
  fun ir ir' m h => runRounds_invariant (obs · = obs ir) lookup (flatten group)
    (fun n hn p hl a a' m' hr ha => (hp n hn p hl a a' m' hr).trans ha) rounds ir ir' m h rfl

/-- non-vacuity: a pipeline of two registered identity passes runs and preserves -/
example : runPipeline (fun _ => some (⟨fun (ir : Nat) => some (ir, false)⟩ : Pass Nat))
    [.pass [1], .group [.pass [2]]] 2 7 = some (7, false) := by decide

end

section
variable {A Obs : Type} (sem : A → Obs)

theorem asmChain_preserves (steps : List (A → A)) (h : ∀ f ∈ steps, ∀ a, sem (f a) = sem a) :
    ∀ a, sem (asmChain steps a) = sem a := by
  induction steps with
  | nil => intro a; rfl
  | cons f r ih =>
    intro a
    exact (ih (fun g hg => h g (List.mem_cons_of_mem _ hg)) (f a)).trans (h f List.mem_cons_self a)

/-- **Assembly optimiser rounds.** The `MAX_OPT_ROUNDS` loop of `AbstractInstructionSet::optimize` — two chains
per round, stop when the size is unchanged, *return the old program* when it grew, continue when it shrank —
preserves the behaviour if one chain does, for any size function and any round bound. -/
theorem asm_rounds_preserve (opt0 : A → A) (size : A → Nat) (h : ∀ a, sem (opt0 a) = sem a) :
    ∀ (k : Nat) (a : A), sem (asmRounds opt0 size k a) = sem a := by
  intro k
  induction k with
  | zero => intro a; rfl
  | succ k ih =>
    intro a
    dsimp only [asmRounds]
    split
    · rw [h, h]
    · split
      · rfl
      · rw [ih, h, h]

end

/-! ## The pipelines of the working tree -/

open SwayVerif.Generated.PassPipeline

def nm (s : List Char) : Name := s.map Char.toNat

/-- The IR passes a human has reviewed as *intended to be* behaviour preserving and which the C03 check
exercises one by one against the real VM. Adding a pass to either pipeline (or renaming one) makes
`C02_partial` fail until it is listed here. -/
def reviewedIrPasses : List Name := [
  nm ['l','o','w','e','r','-','i','n','i','t','-','a','g','g','r'],
  nm ['f','n','-','d','e','d','u','p','-','d','e','b','u','g'],
  nm ['f','n','-','d','e','d','u','p','-','r','e','l','e','a','s','e'],
  nm ['i','n','l','i','n','e'],
  nm ['g','l','o','b','a','l','s','-','d','c','e'],
  nm ['d','c','e'],
  nm ['c','o','n','s','t','-','d','e','m','o','t','i','o','n'],
  nm ['a','r','g','-','d','e','m','o','t','i','o','n'],
  nm ['r','e','t','-','d','e','m','o','t','i','o','n'],
  nm ['m','i','s','c','-','d','e','m','o','t','i','o','n'],
  nm ['a','r','g','_','p','o','i','n','t','e','e','_','m','u','t','a','b','i','l','i','t','y','_','t','a','g','g','e','r'],
  nm ['m','e','m','c','p','y','o','p','t'],
  nm ['s','i','m','p','l','i','f','y','-','c','f','g'],
  nm ['m','e','m','2','r','e','g'],
  nm ['c','c','p'],
  nm ['c','o','n','s','t','-','f','o','l','d','i','n','g'],
  nm ['c','s','e'],
  nm ['m','e','m','c','p','y','p','r','o','p','_','r','e','v','e','r','s','e'],
  nm ['s','r','o','a']]

/-- the reviewed steps of the assembly optimiser's `Opt0` chain -/
def reviewedAsmSteps : List Name := [
  nm ['c','o','n','s','t','_','i','n','d','e','x','i','n','g','_','a','g','g','r','e','g','a','t','e','s','_','f','u','n','c','t','i','o','n'],
  nm ['c','o','n','s','t','a','n','t','_','p','r','o','p','a','g','a','t','e'],
  nm ['d','c','e'],
  nm ['s','i','m','p','l','i','f','y','_','c','f','g'],
  nm ['r','e','m','o','v','e','_','s','e','q','u','e','n','t','i','a','l','_','j','u','m','p','s'],
  nm ['r','e','m','o','v','e','_','r','e','d','u','n','d','a','n','t','_','m','o','v','e','s'],
  nm ['r','e','m','o','v','e','_','r','e','d','u','n','d','a','n','t','_','o','p','s']]

/-- **C02, partial.** Of the pipelines `sway-core` builds today (re-extracted from the source on every run):
every pass of the debug and of the release pipeline is registered (so `runPasses` never fails on an unknown
name) and is in the reviewed list; the release pipeline contains every *kind* of pass the debug pipeline
contains except the debug-profile fn-dedup; every step of the assembly chain is reviewed; both loops have a
positive, finite round bound.
Together with `pipeline_preserves_of_passes` and `asm_rounds_preserve` this reduces "debug and release agree" to
"each reviewed pass preserves behaviour" — which is NOT proved here (see C03/C06/C07 for the modelled kernels)
and is validated per program by running both builds on the real VM (`Driver/C02.lean`). -/
theorem C02_partial :
    (∀ n ∈ opt0, n ∈ knownPasses ∧ n ∈ reviewedIrPasses) ∧
    (∀ n ∈ opt1, n ∈ knownPasses ∧ n ∈ reviewedIrPasses) ∧
    (∀ n ∈ opt0, n ∈ opt1 ∨ n = nm ['f','n','-','d','e','d','u','p','-','d','e','b','u','g']) ∧
    (∀ n ∈ Generated.PassPipeline.asmChain, n ∈ reviewedAsmSteps) ∧
    0 < irRounds ∧ 0 < maxOptRounds := by
  decide +kernel

end SwayVerif.C02
