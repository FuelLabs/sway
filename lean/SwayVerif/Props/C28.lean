import SwayVerif.Model.Storage
import SwayVerif.Lemmas.Storage
import SwayVerif.Lemmas.StorageColl
/-!
# C28 — Persistent storage collections behave like their models

Model: `Model/Storage.lean` — `readQuads`/`writeQuads`/`clearQuads` (storage_api.sw),
`vecPush … vecClear` (storage_vec.sw, 32-byte-slot storage), `mapInsert/mapGet/mapRemove`
(storage_map.sw), `sliceWrite/sliceRead/sliceLen/sliceClear` (storable_slice.sw via storage_bytes.sw /
storage_string.sw). SHA-256 is the parameter `H`; what the theorems need of it is stated as explicit
hypotheses (`VecSep`, `SlotsApart`, `SliceSep`, or plain agreement of the two stores on a field's own
slots) — hence the `_partial` level of the property as a whole; every run evaluates them on the
concrete digests (`spaced=` in the driver output).

Elements/values are byte strings of `8*w` bytes (`w ≥ 1` words; non-reference types have `w = 1`).
Not proved here: the composition of the per-operation theorems into one statement about whole
histories over several fields (`runSlot` vs `histProp`); that composition is what the correspondence
run checks on every history (agree ∧ prop).
-/
namespace SwayVerif.C28
open SwayVerif.Storage

/-- `read_quads` after `write_quads` at the same slot and offset returns the value written
(any offset, also beyond the first slot; values spanning several slots). -/
theorem read_after_write (st : Store) (k off : Nat) (v : List Nat) (r : Bool) (hpos : 0 < v.length)
    (hr : r = false → off % 4 * 8 + v.length ≤ 32) :
    readQuads (writeQuads st k off v r) k off v.length r = some v :=
  SwayVerif.Storage.read_after_write st k off v r hpos hr

/-- A write leaves every other byte range of the same base readable with the same value: the other
words of the slots it touches are preserved. -/
theorem write_frame (st : Store) (k off : Nat) (v : List Nat) (r : Bool) (hpos : 0 < v.length)
    (hr : r = false → off % 4 * 8 + v.length ≤ 32)
    (off' sz' : Nat) (r' : Bool) (hpos' : 0 < sz') (hr' : r' = false → off' % 4 * 8 + sz' ≤ 32)
    (hdisj : 8 * off' + sz' ≤ 8 * off ∨ 8 * off + v.length ≤ 8 * off') (x : List Nat)
    (h : readQuads st k off' sz' r' = some x) :
    readQuads (writeQuads st k off v r) k off' sz' r' = some x :=
  SwayVerif.Storage.write_frame st k off v r hpos hr off' sz' r' hpos' hr' hdisj x h

/-- A write changes no slot outside the ones it spans, so a read elsewhere (another field, another
key) sees exactly what it saw before. -/
theorem write_frame_other_slots (st : Store) (k off : Nat) (v : List Nat) (r : Bool)
    (hr : r = false → off % 4 * 8 + v.length ≤ 32)
    (k2 off2 sz2 : Nat) (r2 : Bool) (hr2 : r2 = false → off2 % 4 * 8 + sz2 ≤ 32)
    (hsep : ∀ i, i < span off2 sz2 →
      ¬ (k + off / 4 ≤ k2 + off2 / 4 + i ∧ k2 + off2 / 4 + i < k + off / 4 + span off v.length)) :
    readQuads (writeQuads st k off v r) k2 off2 sz2 r2 = readQuads st k2 off2 sz2 r2 :=
  readQuads_congr _ _ _ _ _ _ hr2 fun i hi => writeQuads_get_other st k off v r hr _ (hsep i hi)

/-- `StorageVec` as implemented refines `List`: if the store represents `xs` in field `fid`
(`VecRep`: length slot + element slots at `sha256(fid)`), then every operation returns what the list
operation returns and the new store represents the new list; out-of-bounds indices revert.
Hypotheses: element width `w ≥ 1` words (`w = 1` for non-reference types), lengths below `2^64`,
and `VecSep` — the length slot is not among the element slots in use. -/
theorem storage_vec_refines_list (H : List Nat → Nat) (st : Store) (fid w : Nat) (r : Bool) (xs : List (List Nat))
    (hw : 0 < w) (hr : r = false → w = 1) (hL : xs.length + 1 < 2 ^ 64)
    (hsep : VecSep H fid ((xs.length + 1) * w)) (h : VecRep H st fid w r xs) :
    -- len, get
    readLen st fid = xs.length ∧
    (∀ i, vecGet H st fid (8 * w) r i = some xs[i]?) ∧
    -- push
    (∀ v, v.length = 8 * w → VecRep H (vecPush H st fid (8 * w) r v) fid w r (xs ++ [v])) ∧
    -- pop
    ((vecPop H st fid (8 * w) r).2 = xs.getLast? ∧ VecRep H (vecPop H st fid (8 * w) r).1 fid w r xs.dropLast) ∧
    -- set
    (∀ i v, v.length = 8 * w → (i < xs.length →
        ∃ st', vecSet H st fid (8 * w) r i v = some st' ∧ VecRep H st' fid w r (xs.set i v)) ∧
      (¬ i < xs.length → vecSet H st fid (8 * w) r i v = none)) ∧
    -- remove
    (∀ i, (∀ hi : i < xs.length, ∃ st', vecRemove H st fid (8 * w) r i = some (st', xs[i]) ∧
        VecRep H st' fid w r (xs.eraseIdx i)) ∧
      (¬ i < xs.length → vecRemove H st fid (8 * w) r i = none)) ∧
    -- insert
    (∀ i v, v.length = 8 * w → (i ≤ xs.length →
        ∃ st', vecInsert H st fid (8 * w) r i v = some st' ∧ VecRep H st' fid w r (xs.take i ++ v :: xs.drop i)) ∧
      (¬ i ≤ xs.length → vecInsert H st fid (8 * w) r i v = none)) ∧
    -- swap
    (∀ i j, (i < xs.length → j < xs.length →
        ∃ st', vecSwap H st fid (8 * w) r i j = some st' ∧ VecRep H st' fid w r (swapList xs i j)) ∧
      (¬ (i < xs.length ∧ j < xs.length) → vecSwap H st fid (8 * w) r i j = none)) ∧
    -- swap_remove
    (∀ i, (∀ hi : i < xs.length, ∃ st' l, xs.getLast? = some l ∧ vecSwapRemove H st fid (8 * w) r i = some (st', xs[i]) ∧
        VecRep H st' fid w r ((xs.set i l).dropLast)) ∧
      (¬ i < xs.length → vecSwapRemove H st fid (8 * w) r i = none)) ∧
    -- clear
    VecRep H (vecClear st fid).1 fid w r [] := by
  have hsep0 := VecSep_mono H hsep (Nat.mul_le_mul_right w (Nat.le_succ _))
  -- the lemmas for `remove`, `insert`, `swap`, `swap_remove` also give the footprint, which is `op_footprints`' business and is projected away here
  exact ⟨h.len, vecGet_rep H h, fun v hv => vecPush_rep H v hw hr hv hL hsep h, vecPop_rep H hr (by omega) hsep0 h,
    fun i v hv => ⟨vecSet_rep H i v hw hr hv hsep0 h, vecSet_oob H i v h⟩,
    fun i => ⟨fun hi => (vecRemove_rep H i hw hr (by omega) hsep0 h hi).imp fun _ e => ⟨e.1, e.2.1⟩,
      vecRemove_oob H i h⟩,
    fun i v hv => ⟨fun hi => (vecInsert_rep H i v hw hr hv hL hsep h hi).imp fun _ e => ⟨e.1, e.2.1⟩,
      vecInsert_oob H i v h⟩,
    fun i j => ⟨fun hi hj => (vecSwap_rep H i j hw hr hsep0 h hi hj).imp fun _ e => ⟨e.1, e.2.1⟩,
      vecSwap_oob H i j h⟩,
    fun i => ⟨fun hi => (vecSwapRemove_rep H i hw hr (by omega) hsep0 h hi).imp fun _ e =>
      e.imp fun _ e => ⟨e.1, e.2.1, e.2.2.1⟩, vecSwapRemove_oob H i h⟩,
    vecClear_rep H st fid w r⟩

/-- The empty store represents the empty vector (contracts deploy collection fields with no slots). -/
theorem storage_vec_init (H : List Nat → Nat) (fid w : Nat) (r : Bool) : VecRep H Store.empty fid w r [] :=
  vecRep_nil H (readLen_unset _ _ rfl)

/-- `StorageMap` as implemented refines a function `key ↦ Option value`: `get` after `insert` /
`remove` of the same key, of any other (field, key) whose slots are apart (hash hypothesis
`SlotsApart`), and `remove` reports presence. `kb` = the key's hashed bytes, values of `sz` bytes. -/
theorem storage_map_refines_fun (H : List Nat → Nat) (st : Store) (fid : Nat) (kb v : List Nat) (r : Bool)
    (hpos : 0 < v.length) (hr : r = false → v.length ≤ 32) :
    mapGet H (mapInsert H st fid kb v r) fid kb v.length r = some v ∧
    mapGet H (mapRemove H st fid kb v.length r).1 fid kb v.length r = none ∧
    (mapRemove H st fid kb v.length r).2 = (mapGet H st fid kb v.length r).isSome ∧
    (∀ fid' kb' sz' r', (r' = false → sz' ≤ 32) →
      SlotsApart (mapSlot H fid kb) ((v.length + 31) / 32) (mapSlot H fid' kb') ((sz' + 31) / 32) →
      mapGet H (mapInsert H st fid kb v r) fid' kb' sz' r' = mapGet H st fid' kb' sz' r' ∧
      mapGet H (mapRemove H st fid kb v.length r).1 fid' kb' sz' r' = mapGet H st fid' kb' sz' r') :=
  ⟨read_after_write st _ 0 v r hpos (side0 hr), mapGet_remove_same H st fid kb v.length r hpos hr,
   mapRemove_flag H st fid kb v.length r hpos hr,
   fun fid' kb' sz' r' hr' hsep =>
    ⟨mapGet_frame H _ _ fid' kb' sz' r' hr' fun j hj =>
      mapInsert_get_other H st fid kb v r hr _ (by unfold SlotsApart at hsep; omega),
     mapGet_frame H _ _ fid' kb' sz' r' hr' fun j hj =>
      mapRemove_get_other H st fid kb v.length r hr _ (by unfold SlotsApart at hsep; omega)⟩⟩

/-- `StorageBytes` / `StorageString` (`write_slice`, `read_slice`, `len`, `clear`) behave like a byte
string; an empty string reads back as `None`. `SliceSep`: the length slot is not a data slot. -/
theorem storage_slice_refines_bytes (H : List Nat → Nat) (st : Store) (fid : Nat) (bs : List Nat)
    (hL : bs.length < 2 ^ 64) (hsep : SliceSep H fid bs.length) :
    sliceRead H (sliceWrite H st fid bs) fid = (if bs.length = 0 then none else some bs) ∧
    sliceLen (sliceWrite H st fid bs) fid = bs.length ∧
    sliceRead H (sliceClear st fid).1 fid = none ∧ sliceLen (sliceClear st fid).1 fid = 0 :=
  ⟨sliceRead_write H st fid bs hL hsep, sliceLen_write H st fid bs hL, sliceRead_clear H st fid⟩

/-- Footprints: every mutating operation changes only slots of its own field — the length slot
and the element/data slots (vectors, slices), or the slots of the one key (maps). -/
theorem op_footprints (H : List Nat → Nat) (st : Store) (fid w : Nat) (r : Bool) (xs : List (List Nat))
    (hw : 0 < w) (hr : r = false → w = 1) (hL : xs.length + 1 < 2 ^ 64)
    (hsep : VecSep H fid ((xs.length + 1) * w)) (h : VecRep H st fid w r xs) :
    (∀ v, v.length = 8 * w → SameOutside H fid ((xs.length + 1) * w) st (vecPush H st fid (8 * w) r v)) ∧
    SameOutside H fid ((xs.length + 1) * w) st (vecPop H st fid (8 * w) r).1 ∧
    (∀ i v st', v.length = 8 * w → vecSet H st fid (8 * w) r i v = some st' → SameOutside H fid ((xs.length + 1) * w) st st') ∧
    (∀ i st' x, vecRemove H st fid (8 * w) r i = some (st', x) → SameOutside H fid ((xs.length + 1) * w) st st') ∧
    (∀ i v st', v.length = 8 * w → vecInsert H st fid (8 * w) r i v = some st' → SameOutside H fid ((xs.length + 1) * w) st st') ∧
    (∀ i j st', vecSwap H st fid (8 * w) r i j = some st' → SameOutside H fid ((xs.length + 1) * w) st st') ∧
    (∀ i st' x, vecSwapRemove H st fid (8 * w) r i = some (st', x) → SameOutside H fid ((xs.length + 1) * w) st st') ∧
    SameOutside H fid ((xs.length + 1) * w) st (vecClear st fid).1 ∧
    (∀ mf kb v mr, (mr = false → v.length ≤ 32) → ∀ k', ¬ (mapSlot H mf kb ≤ k' ∧ k' < mapSlot H mf kb + (v.length + 31) / 32) →
      (mapInsert H st mf kb v mr).get k' = st.get k' ∧ (mapRemove H st mf kb v.length mr).1.get k' = st.get k') ∧
    (∀ sf bs k', k' ≠ sf → ¬ (H (keyBytes sf) ≤ k' ∧ k' < H (keyBytes sf) + (bs.length + 31) / 32) →
      (sliceWrite H st sf bs).get k' = st.get k') := by
  have hcap : xs.length * w ≤ (xs.length + 1) * w := Nat.mul_le_mul_right w (by omega)
  have hsep0 := VecSep_mono H hsep hcap
  refine ⟨?_, vecPop_outside H st fid _ _ r, ?_, ?_, ?_, ?_, ?_, vecClear_outside H st fid _, ?_, ?_⟩
  · intro v hv; exact vecPush_outside H st fid w _ r v hr hv h.len
  · intro i v st' hv he
    exact SameOutside.mono H (vecSet_outside H st st' fid w _ i r v hr hv h.len he) hcap
  · intro i st' x he
    by_cases hi : i < xs.length
    · obtain ⟨st2, e1, _, e3⟩ := vecRemove_rep H i hw hr (by omega) hsep0 h hi
      rw [e1] at he; cases he
      exact SameOutside.mono H e3 hcap
    · rw [vecRemove_oob H i h hi] at he; cases he
  · intro i v st' hv he
    by_cases hi : i ≤ xs.length
    · obtain ⟨st2, e1, _, e3⟩ := vecInsert_rep H i v hw hr hv hL hsep h hi
      rw [e1] at he; cases he
      exact e3
    · rw [vecInsert_oob H i v h hi] at he; cases he
  · intro i j st' he
    by_cases hi : i < xs.length ∧ j < xs.length
    · obtain ⟨st2, e1, _, e3⟩ := vecSwap_rep H i j hw hr hsep0 h hi.1 hi.2
      rw [e1] at he; cases he
      exact SameOutside.mono H e3 hcap
    · rw [vecSwap_oob H i j h hi] at he; cases he
  · intro i st' x he
    by_cases hi : i < xs.length
    · obtain ⟨st2, l, _, e1, _, e3⟩ := vecSwapRemove_rep H i hw hr (by omega) hsep0 h hi
      rw [e1] at he; cases he
      exact SameOutside.mono H e3 hcap
    · rw [vecSwapRemove_oob H i h hi] at he; cases he
  · intro mf kb v mr hmr k' hk
    exact ⟨mapInsert_get_other H st mf kb v mr hmr k' hk, mapRemove_get_other H st mf kb v.length mr hmr k' hk⟩
  · intro sf bs k' h1 h2
    exact sliceWrite_get_other H st sf bs k' h1 h2

/-- Non-interference: whatever happens to the store outside a field's own slots (operations on other
fields or keys, by `op_footprints` under the hash hypotheses) leaves what the field represents
unchanged — vectors, map entries, byte strings. -/
theorem fields_noninterference (H : List Nat → Nat) (st st' : Store) :
    (∀ fid w r xs, 0 < w → (r = false → w = 1) → VecRep H st fid w r xs → st'.get fid = st.get fid →
      (∀ j, j < (8 * (xs.length * w) + 31) / 32 → st'.get (vecKey H fid + j) = st.get (vecKey H fid + j)) →
      VecRep H st' fid w r xs) ∧
    (∀ fid kb sz r, (r = false → sz ≤ 32) →
      (∀ j, j < (sz + 31) / 32 → st'.get (mapSlot H fid kb + j) = st.get (mapSlot H fid kb + j)) →
      mapGet H st' fid kb sz r = mapGet H st fid kb sz r) ∧
    (∀ fid, st'.get fid = st.get fid →
      (∀ j, j < (readLen st fid + 31) / 32 → st'.get (H (keyBytes fid) + j) = st.get (H (keyBytes fid) + j)) →
      sliceRead H st' fid = sliceRead H st fid ∧ sliceLen st' fid = sliceLen st fid) :=
  ⟨fun _ _ _ _ _ hr h hf he => ⟨(readLen_congr st st' _ hf).trans h.len, ElemsRep.congr H hr h.elems he⟩,
   fun fid kb sz r hr h => mapGet_frame H st st' fid kb sz r hr h,
   fun fid hf hd => sliceRead_frame H st st' fid hf hd⟩

/-- Whole histories on ONE vector field (any mix of push/pop/get/set/len/remove/insert/swap/
swap_remove/clear and raw slot reads, any length, out-of-bounds calls included): the observations of
the slot machine `runSlot` — the model the driver runs against the VM — satisfy the driver's
predicate `histProp`, i.e. are exactly what the list model predicts. `N` bounds the number of
elements ever in play (`VecSep` up to `N` elements, `N < 2^64`). `_partial`: one field only; the
composition over several fields is checked per run. -/
theorem C28_vec_history_partial (H : List Nat → Nat) (fid w N : Nat) (hw : 0 < w) (hN : N < 2 ^ 64)
    (hsep : VecSep H fid (N * w)) (ops : List Op) (hops : ∀ op ∈ ops, vecOp w op = true)
    (hb : ops.length + 1 ≤ N) :
    histProp (absInit [⟨.vec (8 * w), fid⟩]) ops (runSlot H [⟨.vec (8 * w), fid⟩] Store.empty ops) = true :=
  vec_history H fid w N hw hN hsep ops Store.empty [] hops (storage_vec_init H fid w _) (by simpa using hb)

/-! Non-vacuity: the hypotheses are satisfiable together (a concrete `H`, the deployed store). -/
def H0 : List Nat → Nat := fun _ => 1000
example : VecSep H0 5 ((([] : List (List Nat)).length + 1) * 1) := by
  intro j _; show 1000 + j ≠ 5; omega
example : VecRep H0 Store.empty 5 1 false [] := storage_vec_init H0 5 1 false
example : ([] : List (List Nat)).length + 1 < 2 ^ 64 := by decide
example : SlotsApart 10 2 20 1 := Or.inl (by omega)
example : ∀ op ∈ [Op.vpush 0 [0, 0, 0, 0, 0, 0, 0, 7], Op.vremove 0 0, Op.vget 0 0], vecOp 1 op = true := by decide
example : SliceSep H0 5 64 := by intro j _; show 1000 + j ≠ 5; omega

end SwayVerif.C28
