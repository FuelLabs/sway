import SwayVerif.Lemmas.LspSched
import SwayVerif.Model.LspSchedTree
/-!
# C24 — LSP compilation scheduling neither hangs nor drops edits

Model: `SwayVerif.LspSched` (`Model/LspSched.lean`): the flag / channel / notify protocol between the
compilation worker thread and the `did_open` / `did_change` / `did_save` handlers and
`wait_for_parsing`, one step per shared access, any number of handlers, every interleaving
(`Step`: handlers pre-emptible everywhere). `Cfg.fixed` is the code in the tree, `Cfg.orig` the code
before the `fix:` commit. All theorems quantify over every reachable state, i.e. over unboundedly
many client events and every schedule.
-/
namespace SwayVerif.C24
open SwayVerif.LspSched

/-- (a), general form: if `wait_for_parsing` creates its `Notified` before checking the flags,
`did_open` raises `is_compiling` before sending but after its fallible look-ups (a handler may
return an error there, before it has queued anything: `hInit`/`fail`), and the client first opens a
document of a valid project, then in a quiescent state (worker in `recv`, channel empty, no handler
able to move) nobody is still waiting for a notification. -/
theorem C24_no_stuck_waiter_cfg {c : Cfg} {s : State} (hc1 : c.notifiedFirst = true)
    (hc2 : c.openStoreFirst = true) (hc3 : c.openedFirst = true) (hc4 : c.openStoreEarly = false)
    (hr : Reachable c s) (q : Quiescent s) : ∀ i, ¬ Waiting s i := by
  rintro i ⟨sn, hi⟩
  have inv := reach_invA hc1 hc2 hc3 hc4 hr
  have hq := q.2.2 i
  rw [hi] at hq
  have hsn : sn = s.nw := by simpa [HPc.quiet] using hq
  rcases inv.wait i sn hi with h | h
  · omega
  · exact q.not_pend h

/-- (a) for the code in the tree: every request or notification that waits for compilation has
returned once no compilation is running or pending. -/
theorem C24_no_stuck_waiter {s : State} (hr : Reachable Cfg.fixed s) (q : Quiescent s) :
    ∀ i, ¬ Waiting s i :=
  C24_no_stuck_waiter_cfg rfl rfl rfl rfl hr q

/-- (b), general form: if the worker resets `retrigger_compilation` when it picks a request up, then
in a quiescent state the last compilation that ran to completion read the latest document version
(this half needs neither of the other repairs nor `openedFirst`). -/
theorem C24_latest_compiled_cfg {c : Cfg} {s : State} (hc : c.clearAtRecv = true)
    (hr : Reachable c s) (q : Quiescent s) : s.lastDone = s.latest := by
  have inv := reach_invB hc hr
  rcases inv.last with h | h | h
  · exact h
  · rw [q.1] at h; cases h
  · exact absurd h q.not_queued

/-- (b) for the code in the tree: no edit is lost to a stale cancellation signal. -/
theorem C24_latest_compiled {s : State} (hr : Reachable Cfg.fixed s) (q : Quiescent s) :
    s.lastDone = s.latest :=
  C24_latest_compiled_cfg rfl hr q

/-- The code in `/repo`'s working tree (shape extracted by `gen/lsp_sched_shape.py` on every run) is
the repaired protocol, so `C24_no_stuck_waiter` and `C24_latest_compiled` are about it. Fails to
compile when the order of the shared accesses in the worker loop, `wait_for_parsing`,
`send_new_compilation_request` or the handlers changes, or when a new mention of the protocol's
fields appears in `sway-lsp/src`. -/
theorem C24_tree_is_fixed : treeCfg = some Cfg.fixed := by decide

/-! ## The code before the repair violated both halves (explicit, realisable schedules)

Every schedule below satisfies `coopOk`: handlers switch only at `.await` points, only the worker
thread interleaves freely. They are replayed on the real server by `harness/src/bin/sv_c24.rs`
(`corpus/c24.txt`). -/

open Act WLabel HLabel in
/-- A full, undisturbed `did_open` (handler `i`) with its compilation. -/
def openRound (i : Nat) : List Act :=
  [h i (spawn .open true), h i lookup, h i loadIc, h i isFull, h i send, h i HLabel.setIc,
   w recv, w WLabel.setIc, w start, w chk, w read, w finish, w (lsDone true), w clrIc, w clrRt, w isEmpty,
   w notify, h i pLoadIc, h i readLs, h i pIsEmpty]

open Act WLabel HLabel in
/-- Lost wake-up: a waiter loads `is_compiling = true`, the worker finishes and calls
`notify_waiters()`, only then the waiter creates its `Notified`. -/
def schedLostWakeup : List Act :=
  openRound 0 ++
  [h 1 (spawn .change true), h 1 lookup, h 1 write, h 1 loadIc, h 1 isFull, h 1 send,
   w recv, w WLabel.setIc, w start, w chk,
   h 2 (spawn .wait true), h 2 pLoadIc,
   w read, w finish, w (lsDone true), w clrIc, w clrRt, w isEmpty, w notify,
   h 2 snap]

open Act WLabel HLabel in
/-- `did_open` stores `is_compiling = true` after the worker has already finished the request. -/
def schedLateStore : List Act :=
  [h 0 (spawn .open true), h 0 lookup, h 0 loadIc, h 0 isFull, h 0 send,
   w recv, w WLabel.setIc, w start, w chk, w read, w finish, w (lsDone true), w clrIc, w clrRt, w isEmpty,
   w notify,
   h 0 HLabel.setIc, h 0 pLoadIc, h 0 snap]

open Act WLabel HLabel in
/-- Stale retrigger (narrow window): `did_change` loads `is_compiling = true`, the worker finishes and
resets both flags, then the handler stores `retrigger = true` and sends: the compilation of the edit
aborts at its first check point. -/
def schedStaleRetrigger : List Act :=
  openRound 0 ++
  [h 1 (spawn .save true), h 1 lookup, h 1 loadIc, h 1 isFull, h 1 send,
   w recv, w WLabel.setIc, h 1 pLoadIc, h 1 snap,
   w start, w chk, w read, w finish, w (lsDone true),
   h 2 (spawn .change true), h 2 lookup, h 2 write, h 2 loadIc,
   w clrIc, w clrRt, w isEmpty, w notify,
   h 2 storeRt, h 2 isFull, h 2 send,
   w recv, w WLabel.setIc, w start, w chk, w lsAbort, w clrIc, w clrRt, w isEmpty, w notify,
   h 1 wake, h 1 pLoadIc, h 1 readLs, h 1 pIsEmpty]

open Act WLabel HLabel in
/-- Stale retrigger (wide window): `did_open`'s own `is_compiling = true` makes a `did_change` that
arrives before the worker has dequeued the request set `retrigger`, drain the queue and send; the
only compilation aborts and nothing is ever compiled. -/
def schedOpenThenChange : List Act :=
  [h 0 (spawn .open true), h 0 lookup, h 0 loadIc, h 0 isFull, h 0 send, h 0 HLabel.setIc, h 0 pLoadIc, h 0 snap,
   h 1 (spawn .change true), h 1 lookup, h 1 write, h 1 loadIc, h 1 storeRt, h 1 isFull, h 1 tryRecv, h 1 tryRecv, h 1 send,
   w recv, w WLabel.setIc, w start, w chk, w lsAbort, w clrIc, w clrRt, w isEmpty, w notify,
   h 0 wake, h 0 pLoadIc, h 0 readLs, h 0 pIsEmpty]

open Act HLabel in
/-- Without `openedFirst`: a request arrives before any `did_open`; `last_compilation_state` is
`Uninitialized` and nothing will ever notify. -/
def schedNotOpened : List Act :=
  [h 0 (spawn .wait true), h 0 snap, h 0 pLoadIc, h 0 readLs]

def stuckEnd (t : State) : Bool := quiescentB t && decide (0 < waitingB t)
def lostEnd (t : State) : Bool := quiescentB t && decide (t.lastDone ≠ t.latest)

theorem lostWakeup_coop : coopOk Cfg.orig init none schedLostWakeup = true := by decide +kernel
theorem lateStore_coop : coopOk Cfg.orig init none schedLateStore = true := by decide +kernel
theorem staleRetrigger_coop : coopOk Cfg.orig init none schedStaleRetrigger = true := by decide +kernel
theorem openThenChange_coop : coopOk Cfg.orig init none schedOpenThenChange = true := by decide +kernel

theorem lostWakeup_stuck : checkRun Cfg.orig schedLostWakeup stuckEnd = true := by decide +kernel
theorem lateStore_stuck : checkRun Cfg.orig schedLateStore stuckEnd = true := by decide +kernel
theorem staleRetrigger_lost : checkRun Cfg.orig schedStaleRetrigger lostEnd = true := by decide +kernel
theorem openThenChange_lost : checkRun Cfg.orig schedOpenThenChange lostEnd = true := by decide +kernel

private theorem stuck_witness {c : Cfg} {as : List Act} (h : checkRun c as stuckEnd = true) :
    ∃ s, Reachable c s ∧ Quiescent s ∧ ∃ i, Waiting s i :=
  let ⟨s, hr, hq, hp⟩ := checkRun_quiescent h
  ⟨s, hr, hq, waiting_of_waitingB (of_decide_eq_true hp)⟩

private theorem lost_witness {c : Cfg} {as : List Act} (h : checkRun c as lostEnd = true) :
    ∃ s, Reachable c s ∧ Quiescent s ∧ s.lastDone ≠ s.latest :=
  let ⟨s, hr, hq, hp⟩ := checkRun_quiescent h
  ⟨s, hr, hq, of_decide_eq_true hp⟩

/-- (a) was false of the code before the repair (two independent causes). -/
theorem C24_orig_stuck_waiter :
    ∃ s, Reachable Cfg.orig s ∧ Quiescent s ∧ ∃ i, Waiting s i := stuck_witness lostWakeup_stuck

theorem C24_orig_stuck_waiter_late_store :
    ∃ s, Reachable Cfg.orig s ∧ Quiescent s ∧ ∃ i, Waiting s i := stuck_witness lateStore_stuck

/-- (b) was false of the code before the repair (two schedules). -/
theorem C24_orig_lost_edit :
    ∃ s, Reachable Cfg.orig s ∧ Quiescent s ∧ s.lastDone ≠ s.latest := lost_witness staleRetrigger_lost

theorem C24_orig_lost_edit_open_then_change :
    ∃ s, Reachable Cfg.orig s ∧ Quiescent s ∧ s.lastDone ≠ s.latest := lost_witness openThenChange_lost

open Act WLabel HLabel in
/-- Seeded mutant: `did_open` stores `is_compiling = true` before its fallible look-ups. A `did_open`
of a file outside any project returns its error after the store; nothing is queued, nothing ever
resets the flag, the next request waits forever. -/
def schedEarlyStore : List Act :=
  [h 0 (spawn .open true), h 0 HLabel.setIc, h 0 lookup, h 0 loadIc, h 0 storeRt, h 0 isFull, h 0 send,
   h 0 snap, h 0 pLoadIc,
   w recv, w WLabel.clrRt, w WLabel.setIc, w start, w chk, w read, w finish, w (lsDone true), w clrIc, w isEmpty,
   w notify, h 0 wake, h 0 snap, h 0 pLoadIc, h 0 readLs, h 0 pIsEmpty,
   h 1 (spawn .open false), h 1 HLabel.setIc, h 1 fail,
   h 2 (spawn .wait true), h 2 snap, h 2 pLoadIc]

/-- Storing `is_compiling` before a point where the handler can return early violates (a). -/
theorem C24_early_store_stuck :
    ∃ s, Reachable { Cfg.fixed with openStoreEarly := true } s ∧ Quiescent s ∧ ∃ i, Waiting s i :=
  stuck_witness (by decide +kernel : checkRun { Cfg.fixed with openStoreEarly := true } schedEarlyStore stuckEnd = true)

example : coopOk { Cfg.fixed with openStoreEarly := true } init none schedEarlyStore = true := by decide +kernel

/-- The protocol assumption `openedFirst` is needed for (a), even for the repaired code. -/
theorem C24_openedFirst_needed :
    ∃ s, Reachable { Cfg.fixed with openedFirst := false } s ∧ Quiescent s ∧ ∃ i, Waiting s i :=
  stuck_witness (by decide +kernel : checkRun { Cfg.fixed with openedFirst := false } schedNotOpened stuckEnd = true)

/-! ## Non-vacuity: the repaired code reaches quiescent states after real work -/

open Act WLabel HLabel in
/-- `did_open`, then a `did_change` cancelling the running compilation, on the repaired code. -/
def schedFixedRun : List Act :=
  [h 0 (spawn .open true), h 0 lookup, h 0 HLabel.setIc, h 0 loadIc, h 0 storeRt, h 0 isFull, h 0 send, h 0 snap, h 0 pLoadIc,
   w recv, w WLabel.clrRt, w WLabel.setIc, w start, w chk, w read,
   h 1 (spawn .change true), h 1 lookup, h 1 write, h 1 loadIc, h 1 storeRt, h 1 isFull, h 1 send,
   w chk, w lsAbort, w clrIc, w isEmpty,
   w recv, w WLabel.clrRt, w WLabel.setIc, w start, w chk, w read, w finish, w (lsDone true), w clrIc, w isEmpty,
   w notify, h 0 wake, h 0 snap, h 0 pLoadIc, h 0 readLs, h 0 pIsEmpty,
   h 2 (spawn .open false), h 2 fail, h 3 (spawn .wait true), h 3 snap, h 3 pLoadIc, h 3 readLs, h 3 pIsEmpty]

example : ∃ s, Reachable Cfg.fixed s ∧ Quiescent s ∧ s.latest = 1 ∧ s.lastDone = 1 ∧ s.nw = 1 := by
  have h : checkRun Cfg.fixed schedFixedRun
      (fun t => quiescentB t && decide (t.latest = 1 ∧ t.lastDone = 1 ∧ t.nw = 1)) = true := by decide +kernel
  obtain ⟨s, hr, hq, hp⟩ := checkRun_quiescent h
  exact ⟨s, hr, hq, of_decide_eq_true hp⟩

example : coopOk Cfg.fixed init none schedFixedRun = true := by decide +kernel

end SwayVerif.C24
