import SwayVerif.Model.FsLock
import SwayVerif.Lemmas.FsLock
/-!
# C25 — Dirty-file flags are never lost between processes

Model: `SwayVerif/Model/FsLock.lean` (`PidFileLocking` of `forc-util/src/fs_locking.rs` as program-counter
machines over one flag file, one file-system operation per step, crash at any point, ANY number of
processes). `sys v` = all interleavings; `sysIso v` = the interleavings in which a publishing step of
`lock` (the `rename`) is taken only while every other live process is outside any operation.

* The unrestricted statement `C25_visible` is FALSE, of the code as found (`Variant.orig`,
  `C25_visible_false_before_fix`, repaired by the `fix:` commit) and still of the repaired code
  (`Variant.fixed`): `C25_visible_false` (stale-decision/unlink TOCTOU) and
  `C25_visible_false_two_lockers` (two concurrent `lock`s). Explicit schedules, replayed on the real code.
* `C25_visible_partial` / `C25_visible_partial_observed`: it holds for every schedule with isolated
  publishing steps — any number of processes, any interleaving of everything else, any crash points.
* `C25_stale_cleared` (safety form, all schedules, both variants): `is_locked` never answers "dirty" on
  account of a dead owner. `C25_stale_cleared_run` (progress form): an undisturbed `is_locked` on a dead
  owner's flag returns `false` and removes the flag.
-/
namespace SwayVerif.C25
open SwayVerif.FsLock SwayVerif.Proc

/-- **Visible (partial).** In every reachable state of every schedule with isolated publishing steps: if
`w`'s `lock` has returned `Ok`, `w` has not begun `release`/`lock` since, and `w` is alive, then `w`'s flag
is on disk and an `is_locked()` by any other process answers "dirty".
Excluded window, exactly: schedules in which some `lock`'s `rename(tmp, path)` is executed while another
live process is between the first and the last file-system step of any `PidFileLocking` operation. -/
theorem C25_visible_partial (s : State) (w : Pid) (hr : Reachable (sysIso .fixed) s) (hw : w < usizeBound)
    (hh : s.holds w = true) (ha : s.alive w = true) :
    flagShows s w ∧ ∀ q, q ≠ w → observe s q = true := by
  have hf := (inv_reachable s hr w hw hh ha).1
  refine ⟨hf, ?_⟩
  intro q hq
  obtain ⟨h, h1, h2⟩ := hf
  simp only [observe, h1, h2, pidOfContents_toDec w hw, ha, Bool.true_and, decide_eq_true_eq]
  exact fun h => hq h.symm

/-- **Visible (partial), step-wise form.** Under the same schedules: every `is_locked()` /
`is_file_dirty()` by another live process that COMPLETES while `w` holds the flag and is alive returns
`true`, and every completing `get_locker_pid()` returns `Some(w)` — whatever was interleaved with it. -/
theorem C25_visible_partial_observed (s t : State) (w q : Pid) (ret : Ret)
    (hr : Reachable (sysIso .fixed) s) (hw : w < usizeBound)
    (hh : s.holds w = true) (ha : s.alive w = true) (hq : q ≠ w)
    (hstep : exec .fixed s (.step q) = some (t, some ret)) :
    (∀ b, ret = .bool b → b = true) ∧ (∀ o, ret = .pid o → o = some w) := by
  obtain ⟨hf, hcons⟩ := inv_reachable s hr w hw hh ha
  obtain ⟨hqa, hstep⟩ := of_exec_step hstep
  constructor
  · rintro b rfl
    obtain ⟨res, hfin, rfl⟩ := stepPc_bool hstep
    rw [hfin.found hw hf (hcons q hqa)]
    exact decide_eq_true hq.symm
  · rintro o rfl
    exact (stepPc_pid hstep).found hw hf (hcons q hqa)

/-- **Stale flags are treated as clear (safety form; ALL schedules, code as found and as repaired).**
Whenever an `is_locked()`/`is_file_dirty()` of `q` answers "dirty", it does so at its `is_pid_active(pid)`
step for a pid it read from the flag file, that pid is alive at that very moment and is not `q`.
Hence a flag whose owner has died is never reported dirty. -/
theorem C25_stale_cleared (v : Variant) (s t : State) (q : Pid)
    (hstep : exec v s (.step q) = some (t, some (.bool true))) :
    ∃ pid, s.pc q = .glpActive .isLocked pid ∧ s.alive pid = true ∧ pid ≠ q := by
  obtain ⟨res, hfin, hb⟩ := stepPc_bool (of_exec_step hstep).2
  generalize hpc : s.pc q = c at hfin
  cases hfin with
  | act hal => exact ⟨_, rfl, hal, of_decide_eq_true hb.symm⟩
  | _ => cases hb

/-- **Stale flags are cleared (progress form).** If the flag on disk names a dead owner `w`, then an
`is_locked()` that a live idle process `q` runs without interference takes exactly four file-system
steps (open, read, is_pid_active, remove_file), returns `false`, and leaves no flag file. -/
theorem C25_stale_cleared_run (v : Variant) (s : State) (w q : Pid) (hw : w < usizeBound)
    (hf : flagShows s w) (hdead : s.alive w = false) (hq : s.alive q = true) (hidle : s.pc q = .idle) :
    ∃ s0 s1 s2 s3 t, exec v s (.start q .isLocked) = some (s0, none) ∧ exec v s0 (.step q) = some (s1, none) ∧
      exec v s1 (.step q) = some (s2, none) ∧ exec v s2 (.step q) = some (s3, none) ∧
      exec v s3 (.step q) = some (t, some (.bool false)) ∧ t.file = none ∧ t.pc q = .idle := by
  obtain ⟨h, h1, h2⟩ := hf
  have hpid : pidOfContents (s.content h) = some w := h2 ▸ pidOfContents_toDec w hw
  -- each step is taken by live `q` at the program counter the previous one set; only the last touches the store
  have run : ∀ c, exec v (s.setPc q c) (.step q) = stepPc v (s.setPc q c) q c := fun c => exec_step hq (upd_self ..)
  refine ⟨s.setPc q (.glpOpen .isLocked), s.setPc q (.glpRead .isLocked h), s.setPc q (.glpActive .isLocked w),
    s.setPc q (.glpRemove .isLocked), ({ s.setPc q (.glpRemove .isLocked) with file := none } : State).setPc q .idle,
    ?_, ?_, ?_, ?_, ?_, rfl, upd_self ..⟩
  · simp only [exec, hq, hidle, decide_true, Bool.and_self, if_true]
    rfl
  · simp only [run, stepPc, show (s.setPc q (.glpOpen .isLocked)).file = some h from h1, setPc_setPc]
  · simp only [run, stepPc, setPc_setPc,
      show pidOfContents ((s.setPc q (.glpRead .isLocked h)).content h) = some w from hpid]
  · simp only [run, stepPc, show (s.setPc q (.glpActive .isLocked w)).alive w = false from hdead, setPc_setPc]
    rfl
  · simp only [run, stepPc]
    rfl

/-! ## The unrestricted statement is false: explicit schedules (processes 101, 102, 103) -/

def live3 : Pid → Bool := fun p => p == 101 || p == 102 || p == 103
def steps (p : Pid) (n : Nat) : List Label := List.replicate n (.step p)

def lost (w : Pid) (s : State) : Bool := s.holds w && s.alive w && !flagShowsB s w && decide (s.pc w = .idle)

theorem sys_step_of_execS (v : Variant) (s : State) (l : Label) (t : State) (h : execS v s l = some t) :
    (sys v).step s t := by
  unfold execS at h
  cases he : exec v s l with
  | none => simp [he] at h
  | some pr =>
    simp only [he, Option.map_some] at h
    injection h with h
    exact ⟨l, pr.2, by rw [he, ← h]⟩

/-- A state with property `P` at the end of a schedule replayed from the empty store is a reachable state with `P`. -/
theorem witness_of_sched (v : Variant) (ls : List Label) (P : State → Bool)
    (h : (runFrom (execS v) (emptyState live3) ls).map P = some true) : ∃ s, Reachable (sys v) s ∧ P s = true := by
  cases hr : runFrom (execS v) (emptyState live3) ls with
  | none =>
    rw [hr] at h
    cases h
  | some s =>
    rw [hr] at h
    exact ⟨s, reachable_of_run (sys v) (execS v) (sys_step_of_execS v) ls _ s (.init ⟨fun _ => rfl, fun _ => rfl⟩) hr,
      Option.some.inj h⟩

theorem flagShowsB_false {s : State} {w : Pid} (h : flagShowsB s w = false) : ¬ flagShows s w := by
  rintro ⟨i, h1, h2⟩
  simp [flagShowsB, h1, h2] at h

/-- Code AS FOUND (`File::create` then `write`): 101 `lock` up to and including `File::create` (file
exists, empty); 102 `is_file_dirty`: its `cleanup_stale_files` reads "", cannot parse it, unlinks the
file; 101 writes its pid into the unlinked inode and `lock` returns `Ok`. -/
def schedBeforeFix : List Label :=
  [.start 101 .lock] ++ steps 101 4 ++ [.start 102 .isFileDirty] ++ steps 102 4 ++ steps 101 1

theorem C25_visible_false_before_fix :
    ∃ s, Reachable (sys .orig) s ∧ s.holds 101 = true ∧ s.alive 101 = true ∧ s.file = none ∧ observe s 102 = false := by
  obtain ⟨s, hr, h⟩ := witness_of_sched .orig schedBeforeFix
    (fun s => s.holds 101 && s.alive 101 && s.file.isNone && !observe s 102) (by decide +kernel)
  simp only [Bool.and_eq_true, Bool.not_eq_true', Option.isNone_iff_eq_none] at h
  exact ⟨s, hr, h.1.1.1, h.1.1.2, h.1.2, h.2⟩

/-- Repaired code, stale-decision/unlink TOCTOU: 101 locks and dies; 103 `is_locked` reads 101's pid, finds
it dead and is about to `remove_file`; 102 `lock`s completely (removing the stale flag, publishing its
own); 103 now unlinks — 102's fresh flag. -/
def schedToctou : List Label :=
  [.start 101 .lock] ++ steps 101 6 ++ [.crash 101, .start 103 .isLocked] ++ steps 103 3
  ++ [.start 102 .lock] ++ steps 102 9 ++ steps 103 1

theorem C25_visible_false :
    ∃ s, Reachable (sys .fixed) s ∧ s.holds 102 = true ∧ s.alive 102 = true ∧ ¬ flagShows s 102 ∧ observe s 103 = false := by
  obtain ⟨s, hr, h⟩ := witness_of_sched .fixed schedToctou
    (fun s => s.holds 102 && s.alive 102 && !flagShowsB s 102 && !observe s 103) (by decide +kernel)
  simp only [Bool.and_eq_true, Bool.not_eq_true'] at h
  exact ⟨s, hr, h.1.1.1, h.1.1.2, flagShowsB_false h.1.2, h.2⟩

/-- Repaired code, two concurrent lockers: both pass the `release` check on the absent file, both publish;
the later `rename` replaces the earlier flag; when the later locker releases, the earlier one still holds
but nothing is on disk. -/
def schedTwoLockers : List Label :=
  [.start 101 .lock] ++ steps 101 2 ++ [.start 102 .lock] ++ steps 102 6 ++ steps 101 4
  ++ [.start 101 .release] ++ steps 101 4

theorem C25_visible_false_two_lockers :
    ∃ s, Reachable (sys .fixed) s ∧ s.holds 102 = true ∧ s.alive 102 = true ∧ s.file = none ∧ observe s 103 = false := by
  obtain ⟨s, hr, h⟩ := witness_of_sched .fixed schedTwoLockers
    (fun s => s.holds 102 && s.alive 102 && s.file.isNone && !observe s 103) (by decide +kernel)
  simp only [Bool.and_eq_true, Bool.not_eq_true', Option.isNone_iff_eq_none] at h
  exact ⟨s, hr, h.1.1.1, h.1.1.2, h.1.2, h.2⟩

/-- Hence `C25_visible` at full strength (all schedules) does not hold of the repaired code either. -/
theorem C25_visible_unrestricted_false :
    ¬ ∀ (s : State) (w : Pid), Reachable (sys .fixed) s → w < usizeBound → s.holds w = true →
        s.alive w = true → flagShows s w := by
  intro hall
  obtain ⟨s, hr, hh, ha, hn, _⟩ := C25_visible_false
  exact hn (hall s 102 hr (by decide) hh ha)

/-! ## Non-vacuity: a schedule of `sysIso` reaches a state that meets the hypotheses -/

def schedHeld : List Label :=
  [.start 101 .markDirty] ++ steps 101 7 ++ [.start 102 .isFileDirty] ++ steps 102 6 ++ [.start 101 .getLockerPid, .step 101]

example : ((runFrom (execS .fixed) (emptyState live3) schedHeld).map
    fun s => s.holds 101 && s.alive 101 && flagShowsB s 101 && observe s 102) = some true := by decide +kernel

end SwayVerif.C25
