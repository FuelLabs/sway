import SwayVerif.Model.Storage
import SwayVerif.Lemmas.Storage
/-!
# C12 — Initial storage slots match what storage reads return

Model: `SwayVerif/Model/Storage.lean` — `serializeToSlots` (= `serialize_to_storage_slots` /
`serialize_to_words`, padding rule `InByte8Padding`), `deploy`, `readField`/`readMember`
(= `StorageKey::read` → `read_quads` → `slot_calculator`, with the slot/offset the compiler bakes
into the `StorageKey`), `keyString`/`keyPreimage` (= `get_storage_key_string`, `STORAGE_DOMAIN`).

SHA-256 never appears: every theorem holds for ANY key (`C12_readback`, `C12_member_readback`,
`slots_contiguous`); where several fields are deployed together the needed fact about the keys is
the explicit hypothesis `keysSpaced` (theorems named `_partial` for that reason; the hypothesis is
evaluated on the concrete keys of every generated declaration by the correspondence run).
-/
namespace SwayVerif.C12
open SwayVerif.Storage

/-- Every supported constant (u8…u64, bool, b256, u256, str[N], tuples/structs/enums of those,
nested arbitrarily), ANY key: deploying the emitted slots and reading the field through the std
storage API yields exactly the run-time image of the declared initializer. -/
theorem C12_readback (c : Val) (key : Nat) (slots : List (Nat × Slot))
    (hwf : c.wf = true) (hpos : 0 < c.size) (hs : serializeToSlots c key = some slots) :
    readField (deploy slots) key c = some c.mem := by
  rw [serializeToSlots_some hs, readField,
    readQuads_deploy_val c key 0 _ _ hwf hpos Val.size_le_of_not_isRef (by omega), Val.mem_window_full hwf]

/-- A direct member of a struct-typed field, read through the slot and word offset the compiler
computes for `storage.f.member` (`key + off/4`, `off % 4`), yields the member's image. -/
theorem C12_member_readback (c v : Val) (key i off : Nat) (slots : List (Nat × Slot))
    (hwf : c.wf = true) (hf : c.field i = some (off, v)) (hpos : 0 < v.size)
    (hs : serializeToSlots c key = some slots) :
    readMember (deploy slots) key off v = some v.mem := by
  obtain ⟨hvw, hmod, hfit, hmem⟩ := Val.field_spec hwf hf
  have e : 8 * (off / 8) = off := by omega
  rw [serializeToSlots_some hs, readMember_eq,
    readQuads_deploy_val c key (off / 8) v.size v.isRef hwf hpos Val.size_le_of_not_isRef (by omega),
    e, hmem]

/-- The emitted slots have the consecutive keys `key, key+1, …`, and there are `ceil(size/32)` of
them for a well-formed non-zero-sized constant. -/
theorem slots_contiguous (c : Val) (key : Nat) (slots : List (Nat × Slot))
    (hs : serializeToSlots c key = some slots) :
    slots.map (·.1) = (List.range c.nslots).map (key + ·) ∧
    (c.wf = true → 0 < c.size → c.nslots = (c.size + 31) / 32) := by
  refine ⟨?_, fun hw hp => Val.nslots_eq hw hp⟩
  rw [serializeToSlots_some hs]
  simp [fieldSlots, Function.comp_def]

/-- The only failure of slot emission is the compiler panic of `add_to_b256` on key overflow. -/
theorem serialize_none_iff (c : Val) (key : Nat) :
    serializeToSlots c key = none ↔ c.nslots ≠ 0 ∧ two256 ≤ key + (c.nslots - 1) := by
  rw [serializeToSlots_eq]
  by_cases hn : c.nslots = 0
  · simp [hn]
  · simp [hn, Nat.not_lt]

/-- `keysSpaced` ⇒ distinct fields occupy pairwise disjoint slot sets. (`_partial`: the hypothesis
is a fact about SHA-256 outputs / user chosen `in` keys, checked concretely per run.) -/
theorem C12_disjoint_partial (fs : List (Nat × Val)) (hs : keysSpaced fs = true)
    (i j : Nat) (hi : i < fs.length) (hj : j < fs.length) (hij : i ≠ j) (k : Nat)
    (hk : k ∈ (fieldSlots fs[i]).map (·.1)) : k ∉ (fieldSlots fs[j]).map (·.1) := by
  rw [mem_fieldSlots_keys] at hk ⊢
  have hp := List.pairwise_iff_getElem.1 ((keysSpaced_iff fs).1 hs)
  rcases Nat.lt_or_gt_of_ne hij with h | h
  · have := (apart_iff _ _).1 (hp i j hi hj h); omega
  · have := (apart_iff _ _).1 (hp j i hj hi h); omega

/-- The whole declaration deployed at once: under `keysSpaced` every field reads back its own
initializer (no field's slots shadow another's). -/
theorem C12_readback_all_partial (fs : List (Nat × Val)) (hs : keysSpaced fs = true)
    (f : Nat × Val) (hm : f ∈ fs) (hwf : f.2.wf = true) (hpos : 0 < f.2.size) :
    readField (deploy (allSlots fs)) f.1 f.2 = some f.2.mem := by
  rw [readField, readQuads_deploy_all fs hs f hm hwf 0 _ _ hpos Val.size_le_of_not_isRef (by omega),
    Val.mem_window_full hwf]

/-- Distinct (namespace path, field, struct-member path) triples give distinct pre-images of the
storage key hash: `"::"` separates namespaces, `"."` introduces the field and struct members, and
identifiers contain neither `:` nor `.` (`ValidIdent`). With the domain byte in front. -/
theorem key_preimage_injective (ns ns' : List (List Char)) (f f' : List Char) (sfs sfs' : List (List Char))
    (h1 : ∀ s ∈ ns, ValidIdent s) (h1' : ∀ s ∈ ns', ValidIdent s) (h2 : ValidIdent f) (h2' : ValidIdent f')
    (h3 : ∀ s ∈ sfs, ValidIdent s) (h3' : ∀ s ∈ sfs', ValidIdent s)
    (h : keyPreimage ns f sfs = keyPreimage ns' f' sfs') : ns = ns' ∧ f = f' ∧ sfs = sfs' := by
  simp only [keyPreimage, List.cons.injEq, true_and] at h
  exact keyString_inj ns ns' f f' sfs sfs' (fun s hs => (h1 s hs).2) (fun s hs => (h1' s hs).2) h2.2 h2'.2
    (fun s hs => (h3 s hs).2) (fun s hs => (h3' s hs).2) ((List.map_inj_right fun _ _ => Char.toNat_inj.1).1 h)

/-- The pre-image starts with the storage domain byte `0` (`STORAGE_DOMAIN`), which separates it
from the pre-images of `StorageMap` slots (domain byte `1`). -/
theorem key_preimage_domain (ns : List (List Char)) (f : List Char) (sfs : List (List Char))
    (fid : Nat) (kb : List Nat) : keyPreimage ns f sfs ≠ 1 :: kb ++ keyBytes fid := by
  simp [keyPreimage]

/-- The decidable predicate the driver evaluates holds of the model's own output: first key = the
field's key, keys consecutive, value read back = declared initializer. -/
theorem C12_prop_of_model (c : Val) (key : Nat) (slots : List (Nat × Slot))
    (hwf : c.wf = true) (hpos : 0 < c.size) (hs : serializeToSlots c key = some slots) :
    fieldProp c key (slots.map (·.1)) (readField (deploy slots) key c).isSome c.abi [] = true := by
  have hc := (slots_contiguous c key slots hs).1
  have hn := Val.nslots_eq hwf hpos
  have hr := C12_readback c key slots hwf hpos hs
  have hlen : (slots.map (·.1)).length = c.nslots := by rw [hc]; simp
  have hne : (slots.map (·.1)).isEmpty = false := by
    cases hl : slots.map (·.1) with
    | nil => rw [hl] at hlen; simp at hlen; omega
    | cons _ _ => rfl
  simp only [fieldProp, hne, hr, Option.isSome_some, List.all_nil, Bool.and_true, Bool.not_false, Bool.true_and,
    beq_self_eq_true]
  rw [hlen, hc]
  simp

/-! Non-vacuity: the hypotheses are met by concrete declarations (struct with a unit enum variant
followed by a field; explicit key; two spaced fields). -/
example : (Val.cons (.enum 0 1 .unit) (.cons (.word 64 7) .nil)).wf = true := by decide
example : (serializeToSlots (Val.cons (.enum 0 1 .unit) (.cons (.word 64 7) .nil)) 5).isSome = true := by decide
example : keysSpaced [(10, Val.word 64 1), (20, Val.cons (.b32 false 3) (.cons (.u8 2) .nil))] = true := by decide
example : (Val.cons (.u8 5) (.cons (.word 64 7) .nil)).field 1 = some (8, .word 64 7) := by decide
example : ValidIdent ['n', 's', '_', '1'] := ⟨by simp, by decide⟩
example : serializeToSlots (Val.cons (.b32 false 0) (.cons (.word 64 5) .nil)) (two256 - 1) = none := by decide

end SwayVerif.C12
