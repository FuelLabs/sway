import SwayVerif.Model.Determ
import SwayVerif.Model.DetermSites
import SwayVerif.Lemmas.Determ
/-!
# C15 — builds are deterministic (kernel theorems)

What is proved: every kernel through which a hash container's iteration order
could reach emitted bytes is invariant under permutation of that order, and every std-hash iteration
site that the translator finds in /repo today is reviewed. What is NOT proved: that the compiler as a
whole is a function of its input; that is decided per package by rebuilding in fresh
processes and comparing bytes (checks/c15.py).
-/
namespace SwayVerif.C15
open SwayVerif.Determ

/-- The comparator used for the spill choice is a total order with `eq` only on identical candidates. -/
theorem candCmp_eq_iff (a b : Cand) : candCmp a b = .eq ↔ a = b := by
  simp only [candCmp_eq_then, Ordering.then_eq_eq, Nat.compare_eq_eq]
  cases a; cases b; simp only [Cand.mk.injEq]

/-- `max_by` with that comparator does not depend on the iteration order of `pending`
(an `FxHashSet`): any two enumerations of the same candidates give the same spill register. -/
theorem spillChoice_perm (l₁ l₂ : List Cand) (h : l₁.Perm l₂) (hnd : l₁.Nodup) :
    spillChoice l₁ = spillChoice l₂ := by
  have _ := hnd
  exact maxBy_perm candCmp_total candCmp_trans candCmp_antisymm h

/-- `spill_offsets` does not depend on the iteration order of the spill set. -/
theorem spillOffsets_perm (s₁ s₂ : List Nat) (h : s₁.Perm s₂) (k : Nat) :
    spillOffsets s₁ k = spillOffsets s₂ k := by
  have hs : s₁.mergeSort (fun a b => decide (a ≤ b)) = s₂.mergeSort (fun a b => decide (a ≤ b)) :=
    mergeSort_key_perm id h fun _ _ _ _ h => h
  unfold spillOffsets
  rw [hs]

/-- distinct spilled registers get distinct, 8-aligned slots at or above `locals_size` -/
theorem spillOffsets_slots (s : List Nat) (hnd : s.Nodup) (k : Nat) :
    ((spillOffsets s k).map Prod.snd).Nodup ∧
    ∀ p ∈ spillOffsets s k, k ≤ p.2 ∧ (p.2 - k) % 8 = 0 ∧ p.1 ∈ s := by
  have _ := hnd
  refine ⟨slots_nodup k _ 0, ?_⟩
  intro p hp
  obtain ⟨j, _, e, hm⟩ := mem_slots (k := k) (i := 0) hp
  rw [e]
  exact ⟨Nat.le_add_left k _, by rw [Nat.add_sub_cancel, Nat.mul_mod_left], (List.mergeSort_perm s _).subset hm⟩

/-- JSON-ABI concrete types: the order of `HashMap::values()` is irrelevant once sorted by the type
string, provided distinct entries have distinct type strings. -/
theorem sortByField_perm (v₁ v₂ : List (Nat × Nat)) (h : v₁.Perm v₂)
    (hinj : ∀ a ∈ v₁, ∀ b ∈ v₁, a.2 = b.2 → a = b) : sortByField v₁ = sortByField v₂ :=
  mergeSort_key_perm Prod.snd h hinj

/-- `values().find(p)` with at most one match is order-independent. -/
theorem findBy_perm {α : Type} (p : α → Bool) (l₁ l₂ : List α) (h : l₁.Perm l₂)
    (huniq : ∀ a ∈ l₁, ∀ b ∈ l₁, p a = true → p b = true → a = b) : findBy p l₁ = findBy p l₂ :=
  find?_perm_of_unique p h huniq

/-- The visited set computed by the call-graph closure of globals-DCE contains the same elements for
any two successor orderings that agree up to permutation, given enough fuel for the graph
(`fuel ≥ number of nodes`; all nodes `< n`). -/
theorem grow_perm_partial (succ₁ succ₂ : Nat → List Nat) (n : Nat)
    (hperm : ∀ f, (succ₁ f).Perm (succ₂ f)) (hbound : ∀ f, ∀ g ∈ succ₁ f, g < n)
    (f : Nat) (hf : f < n) (x : Nat) :
    x ∈ grow succ₁ (n + 1) f [] ↔ x ∈ grow succ₂ (n + 1) f [] := by
  have hbound₂ : ∀ f, ∀ g ∈ succ₂ f, g < n :=
    fun f g hg => hbound f g ((hperm f).symm.subset hg)
  rw [mem_grow_iff_reach succ₁ n hbound f hf, mem_grow_iff_reach succ₂ n hbound₂ f hf]
  exact ⟨Reach.congr (fun f x hx => (hperm f).subset hx),
    Reach.congr (fun f x hx => (hperm f).symm.subset hx)⟩

/-- Every std-hash iteration site extracted from /repo's current source is in the reviewed list. -/
theorem C15_sites_reviewed :
    SwayVerif.Generated.stdHashIterSites.all siteReviewed = true := by
  decide +kernel

/-! Non-vacuity -/
example : spillChoice [⟨3, 7, 0⟩, ⟨3, 9, 1⟩, ⟨2, 1, 2⟩] = some ⟨3, 9, 1⟩ := by decide
example : spillChoice [⟨2, 1, 2⟩, ⟨3, 9, 1⟩, ⟨3, 7, 0⟩] = some ⟨3, 9, 1⟩ := by decide

end SwayVerif.C15
