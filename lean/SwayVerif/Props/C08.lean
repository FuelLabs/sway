import SwayVerif.Lemmas.AsmSim
/-!
# C08 — register allocation never clobbers a live value

Model: `SwayVerif/Model/Asm.lean` (liveness, interference graph, coalescing, assignment, spill
slots of `sway-core/src/asm_generation/fuel/{analyses,register_allocator}.rs`, the checker
`validAlloc`, and the abstract machine both the virtual-register and the allocated program run on).

All statements hold for EVERY op list, live-out table, graph, stack and colouring — nothing depends
on the simplify / spill-candidate heuristics of `color_interference_graph`, which are not modelled:
the real allocator's result is instead checked on every run with the proved checker `validAlloc`.

"Two registers never share a location" has the one textbook exception the code makes on purpose:
at `MOVE v w` the graph gets no edge `v – w`, so the copy and its source may share a register (they
hold the same value until one of them is redefined, and that definition adds the edge).
`C08_simulation` shows this is harmless.
-/
namespace SwayVerif.C08
open SwayVerif.Asm

/-- The tables returned by the liveness loop solve the dataflow inequations
`use ⊆ in`, `out \ def ⊆ in`, `in(succ) ⊆ out` (for the registers the analysis looks at). -/
theorem liveness_is_solution (ic : Bool) (ops : List AOp) (lo : List RSet)
    (h : liveness ic ops = some lo) : ∃ li, Solution ic ops li lo := by
  obtain ⟨st, hf, rfl⟩ := Option.map_eq_some_iff.1 h
  exact ⟨st.liveIn, liveLoop_solution hf⟩

/-- The loop bound of the model is never reached: for every op list the liveness loop reaches its
fixpoint, the table has one duplicate-free set per op. -/
theorem liveness_total (ic : Bool) (ops : List AOp) :
    ∃ lo, liveness ic ops = some lo ∧ lo.length = ops.length ∧ ∀ s ∈ lo, s.Nodup := by
  cases hf : livenessFull ic ops with
  | none => exact absurd hf (livenessFull_ne_none ic ops)
  | some st =>
    have inv := liveLoop_inv _ _ _ (linv_init ic ops) hf
    exact ⟨st.liveOut, congrArg (Option.map LState.liveOut) hf, inv.lenOut, fun s hs => (inv.okOut s hs).1⟩

/-- Soundness along paths: if on some control-flow path leaving op `i` through its successor `s`
register `r` is read before being redefined, then `r` is in `live_out[i]`. -/
theorem liveness_sound (ic : Bool) (ops : List AOp) (lo : List RSet)
    (h : liveness ic ops = some lo) (r : Reg) (hk : keepReg ic r = true)
    (i : Nat) (op : AOp) (hop : ops[i]? = some op) (s : Nat) (hs : s ∈ op.succ)
    (hread : ReadBeforeDef ops r s) : r ∈ lo.getD i [] := by
  obtain ⟨li, hsol⟩ := liveness_is_solution ic ops lo h
  exact (hsol i op hop).2.2 s hs r (solution_liveIn_of_read hsol hk hread)

/-- `create_interference_graph`: whenever `v` is defined at an op, `w ≠ v` is live after it and the op
is not `MOVE v w`, the graph has the edge `v → w`; and every edge joins two different virtual
registers. For every op list and every live-out table. -/
theorem interference_complete (ops : List AOp) (lo : List RSet) :
    (∀ x ∈ ops.zip lo, OpInterfD (interference ops lo) x.1 x.2) ∧ GraphOk (interference ops lo) :=
  ⟨interferenceFrom_complete, interferenceFrom_ok (by intro a b h; cases h)⟩

/-- `coalesce_registers`, for ANY safety test (`safe` abstracts Briggs/George): if the graph was
complete for the ops before, the merged graph is complete for the reduced, renamed ops with the
renamed live-out table. -/
theorem coalesce_keeps_interference (safe : Graph → Reg → Reg → Bool) (ops : List AOp)
    (lo : List RSet) (g : Graph) (hok : GraphOk g) (hc : InterfComplete (ops.zip lo) g) :
    InterfComplete ((coalesceWith safe ops lo g).ops.zip (coalesceWith safe ops lo g).liveOut)
      (coalesceWith safe ops lo g).graph := by
  have inv := coInv_coalesce (safe := safe) hok (ops.zip lo)
  intro x hx
  simp only [coalesceWith, List.zip_map', List.mem_map] at hx
  obtain ⟨y, hy, rfl⟩ := hx
  exact opInterf_rename inv.edges inv.virt
    (hc y ((kept_foldl_subset _ (List.mem_reverse.1 hy)).resolve_left List.not_mem_nil))

/-- The renaming computed by coalescing is itself a clobber-free "allocation" of the ORIGINAL ops
(registers are only merged when no edge joins them): it keeps the two registers of every conflict
apart, which is what `rename_step` asks of a renaming. -/
theorem coalesce_rename_no_clobber (safe : Graph → Reg → Reg → Bool) (ops : List AOp)
    (lo : List RSet) (g : Graph) (hok : GraphOk g) (hc : InterfComplete (ops.zip lo) g) :
    NoClobber ops lo (fun r => some (rep (coalesceWith safe ops lo g).map r)) := by
  have inv := coInv_coalesce (safe := safe) hok (ops.zip lo)
  refine fun x hx => forall_conflict_iff.2 fun v w cf c hc1 hc2 => ?_
  have e : rep (coalesceWith safe ops lo g).map v = rep (coalesceWith safe ops lo g).map w :=
    (Option.some.inj hc1).trans (Option.some.inj hc2).symm
  rcases adj_iff.1 (forall_conflict_iff.1 (hc x hx) v w cf) with h | h
  · exact (inv.edges _ _ h).1 e
  · exact (inv.edges _ _ h).1 e.symm

/-- `assign_registers`, for EVERY graph and EVERY stack (any order, partial, with repeats): two
different adjacent nodes that both receive a pool register receive different ones. -/
theorem assign_proper (g : Graph) (K : Nat) (stack : List Reg) (pool : Pool)
    (h : assign g K stack = some pool) (a b : Reg) (hab : a ≠ b) (hadj : adj g a b = true)
    (k : Nat) (ha : colourOf pool a = some k) : colourOf pool b ≠ some k := by
  intro hb
  have inv := poolInv_assignFrom poolInv_replicate h
  obtain ⟨ua, hua, haa⟩ := colourOf_some ha
  obtain ⟨ub, hub, hbb⟩ := colourOf_some hb
  cases hua.symm.trans hub
  exact Bool.false_ne_true ((inv ua (List.mem_of_getElem? hua) a haa b hbb hab).symm.trans hadj)

/-- `assign_registers` either fails or gives every virtual register on the stack one of the `K`
pool registers. -/
theorem assign_total_or_error (g : Graph) (K : Nat) (stack : List Reg) (pool : Pool)
    (h : assign g K stack = some pool) (n : Reg) (hn : n ∈ stack) (hv : n.isVirt = true) :
    ∃ k, colourOf pool n = some k ∧ k < K := by
  obtain ⟨hlen, _, hcov⟩ := assignFrom_spec h
  obtain ⟨k, hk, hlt⟩ := colourOf_isSome (hcov n (List.mem_reverse.2 hn) hv)
  exact ⟨k, hk, by rw [hlen, List.length_replicate] at hlt; exact hlt⟩

/-- `spill_offsets`: every spilled register gets exactly one slot; slots are at or above
`locals`, a multiple of 8 away from it, and the 8-byte slots of different registers do not overlap. -/
theorem spill_offsets_disjoint (spills : List Reg) (locals : Nat) (offs : List (Reg × Nat))
    (h : spillOffsets spills locals = some offs) :
    (∀ r, r ∈ spills ↔ ∃ o, (r, o) ∈ offs) ∧
    (∀ r o o', (r, o) ∈ offs → (r, o') ∈ offs → o = o') ∧
    (∀ r o, (r, o) ∈ offs → locals ≤ o ∧ (o - locals) % 8 = 0 ∧ o + 8 ≤ 2 ^ 32) ∧
    (∀ r₁ o₁ r₂ o₂, (r₁, o₁) ∈ offs → (r₂, o₂) ∈ offs → r₁ ≠ r₂ → o₁ + 8 ≤ o₂ ∨ o₂ + 8 ≤ o₁) := by
  unfold spillOffsets at h
  simp only at h
  split at h
  case isFalse => cases h
  case isTrue hlt =>
  simp only [Option.some.injEq] at h
  subst h
  obtain ⟨hnd, hmem⟩ := sortRegs_spec spills
  refine ⟨fun r => ?_, fun r o o' h1 h2 => ?_, fun r o h1 => ?_, fun r₁ o₁ r₂ o₂ h1 h2 hne => ?_⟩
  · rw [← hmem, List.mem_iff_getElem?]
    exact ⟨fun ⟨j, hj⟩ => ⟨_, mem_offsetsFrom.2 ⟨j, hj, rfl⟩⟩,
      fun ⟨o, ho⟩ => (mem_offsetsFrom.1 ho).imp fun j h => h.1⟩
  · obtain ⟨j, hj, rfl⟩ := mem_offsetsFrom.1 h1
    obtain ⟨j', hj', rfl⟩ := mem_offsetsFrom.1 h2
    rw [(List.getElem?_inj (List.getElem?_eq_some_iff.1 hj).1 hnd).1 (hj.trans hj'.symm)]
  · obtain ⟨j, hj, rfl⟩ := mem_offsetsFrom.1 h1
    have hjl := (List.getElem?_eq_some_iff.1 hj).1
    exact ⟨Nat.le_add_left _ _, by rw [Nat.add_sub_cancel]; exact Nat.mul_mod_left _ _, by omega⟩
  · obtain ⟨j, hj, rfl⟩ := mem_offsetsFrom.1 h1
    obtain ⟨j', hj', rfl⟩ := mem_offsetsFrom.1 h2
    have : j ≠ j' := fun e => hne (Option.some.inj ((e ▸ hj).symm.trans hj'))
    omega

/-- Composition. If the graph is complete for the ops (w.r.t. a live-out table) and a colouring
gives different adjacent nodes different pool registers, then no definition overwrites a register
that is live after it (MOVE exception as explained in the header). -/
theorem C08_no_clobber (ops : List AOp) (lo : List RSet) (g : Graph) (col : Reg → Option Nat)
    (hc : InterfComplete (ops.zip lo) g)
    (hproper : ∀ a b, a ≠ b → adj g a b = true → ∀ k, col a = some k → col b ≠ some k) :
    NoClobber ops lo col := by
  refine fun x hx => forall_conflict_iff.2 fun v w cf c hcv => ?_
  exact hproper v w cf.ne.symm (forall_conflict_iff.1 (hc x hx) v w cf) c hcv

/-- The model pipeline end to end, for every op list, every coalescing safety test and every
colouring stack: liveness → interference graph → coalescing → assignment yields a clobber-free
allocation of the coalesced program (w.r.t. the renamed live-out table). -/
theorem C08_no_clobber_pipeline (safe : Graph → Reg → Reg → Bool) (ops : List AOp) (lo : List RSet)
    (K : Nat) (stack : List Reg) (pool : Pool)
    (h : assign (coalesceWith safe ops lo (interference ops lo)).graph K stack = some pool) :
    NoClobber (coalesceWith safe ops lo (interference ops lo)).ops
      (coalesceWith safe ops lo (interference ops lo)).liveOut (colourOf pool) := by
  obtain ⟨hcomp, hok⟩ := interference_complete ops lo
  have hc : InterfComplete (ops.zip lo) (interference ops lo) := fun x hx =>
    forall_conflict_iff.2 fun v w cf => adj_iff.2 (.inl (forall_conflict_iff.1 (hcomp x hx) v w cf))
  exact C08_no_clobber _ _ _ _ (coalesce_keeps_interference safe ops lo _ hok hc)
    (fun a b hab hadj k hk => assign_proper _ K stack pool h a b hab hadj k hk)

/-- The checker is sound: `validAlloc = true` implies the live-out table has the right length, no
definition clobbers a live register, and every virtual register has a pool register `< K`. -/
theorem validAlloc_sound (ops : List AOp) (lo : List RSet) (col : Reg → Option Nat) (K : Nat)
    (h : validAlloc ops lo col K = true) :
    lo.length = ops.length ∧ NoClobber ops lo col ∧ Located ops lo col K := by
  simp only [validAlloc, located, Bool.and_eq_true, decide_eq_true_eq, List.all_eq_true, Bool.or_eq_true,
    Bool.not_eq_true'] at h
  obtain ⟨⟨⟨hlen, hcf⟩, hloc⟩, hlo⟩ := h
  refine ⟨hlen, fun x hx => clobberFree_iff.1 (hcf x hx), fun op hop r hr hv => ?_, fun l hl r hr hv => ?_⟩
  · have := (hloc op hop r hr).resolve_left fun h => Bool.false_ne_true (h.symm.trans hv)
    split at this
    next c hc => exact ⟨c, hc, of_decide_eq_true this⟩
    next => cases this
  · have := (hlo l hl r hr).resolve_left fun h => Bool.false_ne_true (h.symm.trans hv)
    split at this
    next c hc => exact ⟨c, hc, of_decide_eq_true this⟩
    next => cases this

/-- The end-to-end checker of one colouring round is sound: if `validRound` accepts, then the
COMPOSED location map (coalescing renaming `m`, then pool register `col`) is a clobber-free, total
allocation of the op list `pre` the round started from — a wrong merge by `coalesce_registers` shows
up as a clobber in `pre`, a wrong colour too. (`coalesceMatches`, the second half of the checker,
only states that the final ops are the renamed `pre` minus self-moves.) -/
theorem validRound_sound (pre : List AOp) (lo : List RSet) (m : RegMap) (col : Reg → Option Nat)
    (K : Nat) (fin : List AOp) (h : validRound pre lo m col K fin = true) :
    lo.length = pre.length ∧ NoClobber pre lo (fun r => col (rep m r)) ∧
      Located pre lo (fun r => col (rep m r)) K := by
  exact validAlloc_sound pre lo _ K (Bool.and_eq_true_iff.1 h).1

/-- Simulation (colouring stage). For ARBITRARY op semantics `sem` that reads only `uses`, writes
only `defs ++ defConst` and implements MOVE as a copy (`SemOk`), any solution `li, lo` of the
liveness inequations and any clobber-free, total colouring: every step of the virtual-register
program from a state `s` is matched by the same step of the allocated program (same ops with
registers replaced by pool registers) from any related state `t`, and the results are related again
(`Related`: same pc and memory, live-in registers found in their pool registers, constants equal).

Not covered by this theorem: that removing a coalesced `MOVE` (both ends renamed to one register,
see `coalesce_rename_no_clobber`) and inserting the spill code of `spill` preserve the semantics of
the op list; for spilling only the slot assignment is proved (`spill_offsets_disjoint`), the spilled
program is validated per function by `validSlots` and on the VM by the harness. -/
theorem C08_simulation {V M : Type} (sem : Sem V M) (ops : List AOp) (li lo : List RSet)
    (col : Reg → Option Nat) (K : Nat)
    (hsol : Solution true ops li lo) (hlen : lo.length = ops.length)
    (hnc : NoClobber ops lo col) (hloc : Located ops lo col K) (hsem : SemOk sem ops)
    (s t s' : MState V M) (hR : Related col li s t) (hstep : step sem ops s = some s') :
    ∃ t', step sem (ops.map (mapOp (allocReg col))) t = some t' ∧ Related col li s' t' := by
  have hsep : ∀ x ∈ ops.zip lo, ∀ v w, Conflict x.1 x.2 v w → allocReg col v ≠ allocReg col w := by
    intro x hx v w cf
    obtain ⟨cv, hcv, _⟩ := hloc.1 x.1 (List.of_mem_zip hx).1 v (List.mem_append_left _ cf.isDef) cf.virtDef
    obtain ⟨cw, hcw, _⟩ := hloc.2 x.2 (List.of_mem_zip hx).2 w cf.live cf.virtLive
    exact allocReg_ne_of_col_ne ⟨cv, hcv⟩ ⟨cw, hcw⟩ (forall_conflict_iff.1 (hnc x hx) v w cf) cf.virtDef cf.virtLive
  obtain ⟨t', ht', hR'⟩ := rename_step sem ops li lo (allocReg col) (fun _ => rfl) allocReg_isVirt hsol hlen
    hsep hsem s t s' (related_iff.1 hR) hstep
  exact ⟨t', ht', related_iff.2 hR'⟩

def stepN {V M : Type} (sem : Sem V M) (ops : List AOp) : Nat → MState V M → Option (MState V M)
  | 0, s => some s
  | n + 1, s => (step sem ops s).bind (stepN sem ops n)

/-- What the run-time check establishes: if the model's liveness of the final op list is `lo` and
`validAlloc` accepts the allocator's assignment, then every finite run of the virtual-register
program is reproduced by the allocated program. -/
theorem C08_checked_simulation {V M : Type} (sem : Sem V M) (ops : List AOp) (lo : List RSet)
    (col : Reg → Option Nat) (K : Nat)
    (hlive : liveness true ops = some lo) (hvalid : validAlloc ops lo col K = true)
    (hsem : SemOk sem ops) :
    ∃ li, ∀ (n : Nat) (s t s' : MState V M), Related col li s t → stepN sem ops n s = some s' →
      ∃ t', stepN sem (ops.map (mapOp (allocReg col))) n t = some t' ∧ Related col li s' t' := by
  obtain ⟨li, hsol⟩ := liveness_is_solution true ops lo hlive
  obtain ⟨hlen, hnc, hloc⟩ := validAlloc_sound ops lo col K hvalid
  refine ⟨li, fun n => ?_⟩
  induction n with
  | zero =>
    intro s t s' hR h
    cases h
    exact ⟨t, rfl, hR⟩
  | succ n ih =>
    intro s t s' hR h
    simp only [stepN] at h
    cases h1 : step sem ops s with
    | none => rw [h1] at h; cases h
    | some s1 =>
      rw [h1] at h
      obtain ⟨t1, ht1, hR1⟩ := C08_simulation sem ops li lo col K hsol hlen hnc hloc hsem s t s1 hR h1
      obtain ⟨t', ht', hR'⟩ := ih s1 t1 s' hR1 h
      exact ⟨t', by simp only [stepN, ht1]; exact ht', hR'⟩

/-! ### non-vacuity: concrete instances meeting the hypotheses -/

/-- A loop: `v0` is live around the back edge, the liveness loop reaches its fixpoint. -/
example : liveness true
    [ { kind := .label 1, defs := [], uses := [], succ := [1] },
      { kind := .other "ADD" none, defs := [.virt 1], uses := [.virt 0, .virt 1], succ := [2] },
      { kind := .jnz 1, defs := [], uses := [.virt 1], succ := [0, 3] },
      { kind := .rvrt, defs := [], uses := [.virt 0], succ := [] } ]
    = some [[.virt 0, .virt 1], [.virt 1, .virt 0], [.virt 0, .virt 1], []] := by decide +kernel

/-- `MOVE v1 v0` with both live afterwards: no edge between the ends of the move, edges elsewhere. -/
example : interference
    [ { kind := .move, defs := [.virt 1], uses := [.virt 0] },
      { kind := .other "ADD" none, defs := [.virt 2], uses := [.virt 0, .virt 1] } ]
    [[.virt 0, .virt 1, .virt 3], [.virt 3]] = [(.virt 1, .virt 3), (.virt 2, .virt 3)] := by decide +kernel

example : assign [(.virt 0, .virt 1), (.virt 1, .virt 2)] 2 [.virt 0, .virt 1, .virt 2]
    = some [[.virt 2, .virt 0], [.virt 1]] := by decide +kernel

example : spillOffsets [.virt 7, .virt 3, .virt 7] 16 = some [(.virt 3, 16), (.virt 7, 24)] := by decide +kernel

/-- the checker accepts a proper allocation and rejects one that clobbers `v0` -/
example : validAlloc
    [ { kind := .other "MOVI" none, defs := [.virt 0], uses := [] },
      { kind := .other "MOVI" none, defs := [.virt 1], uses := [] },
      { kind := .other "ADD" none, defs := [.virt 2], uses := [.virt 0, .virt 1] } ]
    [[.virt 0], [.virt 0, .virt 1], []]
    (fun r => match r with | .virt 0 => some 0 | .virt 1 => some 1 | .virt 2 => some 0 | _ => none) 2
    = true := by decide +kernel

example : validAlloc
    [ { kind := .other "MOVI" none, defs := [.virt 0], uses := [] },
      { kind := .other "MOVI" none, defs := [.virt 1], uses := [] },
      { kind := .other "ADD" none, defs := [.virt 2], uses := [.virt 0, .virt 1] } ]
    [[.virt 0], [.virt 0, .virt 1], []]
    (fun r => match r with | .virt 0 => some 0 | .virt 1 => some 0 | .virt 2 => some 1 | _ => none) 2
    = false := by decide +kernel

end SwayVerif.C08
