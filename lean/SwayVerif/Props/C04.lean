import SwayVerif.Model.PassSeq
/-!
# C04 — IR passes keep the IR well-formed (pass-manager structure + dominance kernel)

The Rust verifier is the property's own oracle: whether a concrete pass keeps a concrete module
accepted is decided per (module, pass sequence) by `sv_c04` on the real code. What is proved here is
the part that does not depend on pass bodies: the `PassManager::run` schedule (verify, rounds, verify
after every pass, stop after an unmodified round) preserves acceptance whenever every single pass does,
it terminates within `rounds × |passes|` pass executions, and the dominance check used for SSA scopes is
sound on an abstract CFG.
-/
namespace SwayVerif.C04
open SwayVerif.PassSeq

variable {M : Type}

/-- What the schedule may answer: an accepted module, or the refusal of a pass; never a failed verification. -/
def Accepted (wf : M → Bool) : Res M → Prop
  | .ok m' _ => wf m' = true
  | .passErr => True
  | .verifyFail => False

/-- The loops pass `passErr` and `verifyFail` through and go on with `k` after `ok`. -/
theorem Accepted.bind {wf : M → Bool} {r : Res M} {k : M → Bool → Res M} :
    Accepted wf r → (∀ m' md, wf m' = true → Accepted wf (k m' md)) →
    Accepted wf (match r with
      | .ok m' md => k m' md
      | .passErr => .passErr
      | .verifyFail => .verifyFail) := by
  intro hr hk
  cases r with
  | ok m' md => exact hk m' md hr
  | passErr => trivial
  | verifyFail => exact hr

theorem step_wf (wf : M → Bool) (p : Pass M) (hp : PreservesWf wf p) (m : M) (hm : wf m = true) :
    Accepted wf (step wf p m) := by
  unfold step
  split
  · trivial
  · next m' md h =>
    have hm' := hp m m' md hm h
    rw [if_pos hm']
    exact hm'

theorem runRound_wf (wf : M → Bool) (ps : List (Pass M)) (hps : ∀ p ∈ ps, PreservesWf wf p) :
    ∀ (m : M) (acc : Bool), wf m = true → Accepted wf (runRound wf ps m acc) := by
  induction ps with
  | nil => intro m acc hm; exact hm
  | cons p ps ih =>
    intro m acc hm
    exact (step_wf wf p (hps p List.mem_cons_self) m hm).bind fun m' md hm' =>
      ih (fun q hq => hps q (List.mem_cons_of_mem _ hq)) m' (acc || md) hm'

theorem runRounds_wf (wf : M → Bool) (ps : List (Pass M)) (hps : ∀ p ∈ ps, PreservesWf wf p) (k : Nat) :
    ∀ (m : M) (g : Bool), wf m = true → Accepted wf (runRounds wf ps k m g) := by
  induction k with
  | zero => intro m g hm; exact hm
  | succ k ih =>
    intro m g hm
    refine (runRound_wf wf ps hps m false hm).bind fun m' md hm' => ?_
    cases md with
    | true => exact ih m' true hm'
    | false => exact hm'

/-- **C04, schedule level.** If every pass of the list preserves acceptance by the verifier and the
input is accepted, then `PassManager::run` never fails a verification — for every number of rounds —
and what it returns is accepted. (A pass may still refuse its input: `passErr`.) -/
theorem C04_seq (wf : M → Bool) (passes : List (Pass M)) (hps : ∀ p ∈ passes, PreservesWf wf p)
    (m : M) (hm : wf m = true) (rounds : Nat) :
    match run wf passes rounds m with
    | .ok m' _ => wf m' = true
    | .passErr => True
    | .verifyFail => False := by
  simp only [run, hm, if_true]
  exact runRounds_wf wf passes hps rounds m false hm

/-- A random pass SEQUENCE as run by the harness = one round of the list. -/
theorem C04_sequence (wf : M → Bool) (passes : List (Pass M)) (hps : ∀ p ∈ passes, PreservesWf wf p)
    (m : M) (hm : wf m = true) :
    match runRound wf passes m false with
    | .ok m' _ => wf m' = true
    | .passErr => True
    | .verifyFail => False :=
  runRound_wf wf passes hps m false hm

/-- The hypothesis is satisfiable: a two-pass list over `Nat` "modules" (wf = even): one pass adds 2 (preserves),
the other refuses odd inputs. -/
example : ∃ (ps : List (Pass Nat)), (∀ p ∈ ps, PreservesWf (fun n => n % 2 == 0) p) ∧ ps.length = 2 :=
  ⟨[⟨fun n => some (n + 2, true)⟩, ⟨fun n => if n % 2 == 0 then some (n, false) else none⟩], by
    refine ⟨?_, rfl⟩
    intro p hp m m' md hm h
    simp only [List.mem_cons, List.not_mem_nil, or_false] at hp
    rcases hp with rfl | rfl
    · cases h
      show ((m + 2) % 2 == 0) = true
      rw [Nat.add_mod_right]; exact hm
    · by_cases he : m % 2 == 0
      · simp [he] at h; obtain ⟨h1, _⟩ := h; subst h1; exact hm
      · simp [he] at h⟩

/-- Conversely a verification failure of the schedule pins down a pass that does not preserve acceptance. -/
theorem C04_blame (wf : M → Bool) (passes : List (Pass M)) (m : M) (hm : wf m = true) (rounds : Nat)
    (h : ∃ r, run wf passes rounds m = r ∧ (match r with | .verifyFail => True | _ => False)) :
    ∃ p ∈ passes, ¬ PreservesWf wf p := by
  by_cases hall : ∀ p ∈ passes, PreservesWf wf p
  · obtain ⟨r, hr, hv⟩ := h
    have := C04_seq wf passes hall m hm rounds
    rw [hr] at this
    cases r with
    | verifyFail => exact this.elim
    | _ => exact hv.elim
  · simpa using hall

/-- Termination of the fixpoint iteration: at most `rounds × |passes|` pass executions (the model is total
by construction — recursion on the `rounds` fuel exactly as the `for _ in 0..options.rounds` loop). -/
theorem C04_terminates (wf : M → Bool) (passes : List (Pass M)) :
    ∀ (rounds : Nat) (m : M), execCount wf passes rounds m ≤ rounds * passes.length := by
  intro rounds
  induction rounds with
  | zero => intro m; exact Nat.le_of_eq (Nat.zero_mul _).symm
  | succ k ih =>
    intro m
    rw [Nat.succ_mul, Nat.add_comm (k * passes.length)]
    dsimp only [execCount]
    split
    · next m' md _ =>
      cases md with
      | true => exact Nat.add_le_add_left (ih m') _
      | false => exact Nat.add_le_add_left (Nat.zero_le _) _
    · exact Nat.le_add_right _ _

/-! ## dominance kernel -/

theorem mem_reachAvoid_of_mem (g : Cfg) (a : Nat) (f : Nat) :
    ∀ (seen : List Nat) (x : Nat), x ∈ seen → x ∈ reachAvoid g a f seen := by
  induction f with
  | zero => intro seen x h; exact h
  | succ f ih => intro seen x h; exact ih _ x (List.mem_append_left _ h)

/-- The end of a path of at most `fuel` edges that starts in `seen` and avoids `a` is reached. -/
theorem getLast_mem_reachAvoid (g : Cfg) (a : Nat) (p : List Nat) : ∀ (seen : List Nat) (fuel x : Nat),
    x ∈ seen → IsPath g (x :: p) → (∀ y ∈ x :: p, y ≠ a) → p.length ≤ fuel →
    (x :: p).getLast (by simp) ∈ reachAvoid g a fuel seen := by
  induction p with
  | nil => intro seen fuel x hx _ _ _; exact mem_reachAvoid_of_mem g a fuel seen x hx
  | cons y r ih =>
    intro seen fuel x hx hp ha hl
    cases fuel with
    | zero => cases hl
    | succ f =>
      have hy : y ∈ seen ++ (seen.flatMap (succs g)).filter (fun s => s != a) := by
        have hya : y ≠ a := ha y (List.mem_cons_of_mem _ List.mem_cons_self)
        simp only [List.mem_append, List.mem_filter, List.mem_flatMap, bne_iff_ne, ne_eq]
        exact Or.inr ⟨⟨x, hx, hp.1⟩, hya⟩
      exact ih _ f y hy hp.2 (fun z hz => ha z (List.mem_cons_of_mem _ hz)) (Nat.le_of_succ_le_succ hl)

/-- **Soundness of the dominance check.** If `dominates g fuel a b` then every path from the entry block
to `b` with at most `fuel` edges passes through `a`. (With `fuel ≥` number of blocks this covers every
simple path; a path with a repeated block contains a shorter one with the same end points.) -/
theorem wf_dominance_sound (g : Cfg) (fuel a b : Nat) (h : dominates g fuel a b = true)
    (p : List Nat) (hp : IsPath g (0 :: p)) (hend : (0 :: p).getLast (by simp) = b) (hlen : p.length ≤ fuel) :
    a ∈ 0 :: p := by
  by_cases hab : a = b
  · subst hab; rw [← hend]; exact List.getLast_mem _
  · by_cases hin : a ∈ 0 :: p
    · exact hin
    · exfalso
      have ha0 : a ≠ 0 := fun h0 => hin (by simp [h0])
      have hreach := getLast_mem_reachAvoid g a p [0] fuel 0 (by simp) hp (fun y hy hya => hin (hya ▸ hy)) hlen
      rw [hend] at hreach
      simp only [dominates, Bool.or_eq_true, beq_iff_eq, hab, false_or, Bool.not_eq_true', ha0, if_false] at h
      have hc : (reachAvoid g a fuel [0]).contains b = true := by simpa using hreach
      rw [h] at hc
      exact Bool.false_ne_true hc

/-- diamond CFG 0→1,2 ; 1→3 ; 2→3 : the entry dominates 3, block 1 does not -/
example : dominates [[1, 2], [3], [3], []] 4 0 3 = true ∧ dominates [[1, 2], [3], [3], []] 4 1 3 = false := by decide

/-- the predicate evaluated on every `sv_c04` line flags exactly the outcomes the property forbids -/
theorem C04_prop_exact (v : Verdict) :
    propHolds v = false ↔ (v = .verifyFail ∨ v = .panic ∨ v = .hang ∨ v = .abort) := by
  cases v <;> simp [propHolds]

/-- **C04 (partial).** Proved: schedule-level preservation, blame, termination bound, dominance soundness on
abstract CFGs. NOT modelled: the bodies of the passes and of the verifier — whether each registered pass
preserves acceptance is validated per (module, random pass sequence) on the real code by `sv_c04`. -/
theorem C04_partial (wf : M → Bool) (passes : List (Pass M)) :
    ((∀ p ∈ passes, PreservesWf wf p) → ∀ m, wf m = true → ∀ rounds,
      match run wf passes rounds m with
      | .ok m' _ => wf m' = true
      | .passErr => True
      | .verifyFail => False) ∧
    (∀ rounds m, execCount wf passes rounds m ≤ rounds * passes.length) :=
  ⟨fun h m hm r => C04_seq wf passes h m hm r, C04_terminates wf passes⟩

end SwayVerif.C04
