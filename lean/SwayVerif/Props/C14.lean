import SwayVerif.Model.Usefulness
import SwayVerif.Lemmas.UsefulnessCheck
/-!
# C14 — match exhaustiveness and reachability are exact

Model: `SwayVerif/Model/Usefulness.lean` — the usefulness analysis of
`sway-core/.../match_expression/analysis` AS IMPLEMENTED (after `fix: match usefulness Σ holds only real root
constructors`), untyped and fuel-driven, every `CompileError::Internal` = `none`; plus the condition that the
matcher really builds (`Pat.cond`).

The theorems hold on the FRAGMENT described by the decidable predicate `Pat.hasTy` (suffixed `u8` literals,
struct patterns that list every field in declaration order, non-empty or-patterns; wildcards, bindings, bool,
enum variants, tuples, structs and or-patterns at any depth) over types whose enums are non-empty
(`Ty.inhab`), and for every fuel above the measure `mu` (the driver uses 100000). Outside the fragment the
compiler deviates from the property; each deviation has a `decide`d witness at the end of this file.
-/
namespace SwayVerif.C14
open SwayVerif.Usefulness

/-- `is_useful` never raises an internal error on well-typed input. -/
theorem useful_total {fuel : Nat} {ts : List Ty} {P : Matrix} {q : Row} (hin : inhabL ts = true)
    (hP : rowsHaveTy P ts) (hq : patsHaveTy q ts = true) (hf : mu ts q < fuel) :
    ∃ r, U fuel P q = some r := by
  obtain ⟨r, hr, _⟩ := U_correct fuel ts P q hin hP hq hf
  exact ⟨r, hr⟩

/-- Soundness of the verdict: if `U(P, q)` reports witnesses then some well-typed value vector is matched by
`q` and by no row of `P`. (The witness PATTERNS themselves are not sound — see `witness_join_unsound`.) -/
theorem useful_sound {fuel : Nat} {ts : List Ty} {P : Matrix} {q : Row} (hin : inhabL ts = true)
    (hP : rowsHaveTy P ts) (hq : patsHaveTy q ts = true) (hf : mu ts q < fuel) {w : List Pat}
    (h : U fuel P q = some (.wit w)) :
    ∃ vs, hasTyL vs ts = true ∧ matchesL q vs = true ∧ ∀ r ∈ P, matchesL r vs = false := by
  obtain ⟨r, hr, hiff, _⟩ := U_correct fuel ts P q hin hP hq hf
  rw [h] at hr
  cases hr
  exact hiff.mp rfl

/-- Completeness: if some well-typed value vector is matched by `q` and by no row of `P` then `U(P, q)`
reports witnesses (in particular it is neither "no witnesses" nor an internal error). -/
theorem useful_complete {fuel : Nat} {ts : List Ty} {P : Matrix} {q : Row} (hin : inhabL ts = true)
    (hP : rowsHaveTy P ts) (hq : patsHaveTy q ts = true) (hf : mu ts q < fuel)
    (h : ∃ vs, hasTyL vs ts = true ∧ matchesL q vs = true ∧ ∀ r ∈ P, matchesL r vs = false) :
    ∃ w, U fuel P q = some (.wit w) := by
  obtain ⟨r, hr, hiff, _⟩ := U_correct fuel ts P q hin hP hq hf
  have := hiff.mpr h
  cases r with
  | noWit => simp [Report.has] at this
  | wit w => exact ⟨w, hr⟩

/-- The compiler (model) rejects a match as non-exhaustive exactly when some value of the scrutinee type is
matched by no arm — and it never answers with an internal error. -/
theorem C14_exhaustive_exact {t : Ty} {arms : List Pat} {fuel : Nat} (ht : t.inhab = true)
    (harms : ∀ a ∈ arms, a.hasTy t = true) (hf : t.size + sizeL arms < fuel) :
    ∃ e, (analyse fuel arms).exhaustive? = some e ∧
      (e = false ↔ ∃ v : Val, v.hasTy t = true ∧ ∀ a ∈ arms, a.matches v = false) := by
  obtain ⟨bs, fin, hc, _, _, hfin⟩ := checkArms_spec t ht fuel arms [] (fun _ h => nomatch h) harms hf
  rw [List.nil_append] at hfin
  cases fin with
  | noWit =>
    refine ⟨true, by simp only [analyse, show checkArms fuel arms [] = _ from hc, Verdict.exhaustive?], ?_⟩
    exact iff_of_false (fun h => nomatch h) fun h => Bool.false_ne_true (hfin.mpr h)
  | wit w =>
    refine ⟨false, by simp only [analyse, show checkArms fuel arms [] = _ from hc, Verdict.exhaustive?], ?_⟩
    exact iff_of_true rfl (hfin.mp rfl)

/-- The reachability flag that the analysis computes for arm `k` (`ReachableReport::reachable`) is true
exactly when arm `k` matches some value that no earlier arm matches. -/
theorem C14_reachable_exact {t : Ty} {arms : List Pat} {fuel : Nat} (ht : t.inhab = true)
    (harms : ∀ a ∈ arms, a.hasTy t = true) (hf : t.size + sizeL arms < fuel) :
    ∃ bs fin, checkArms fuel arms [] = some (bs, fin) ∧ bs.length = arms.length ∧
      ∀ k (hk : k < arms.length), bs[k]? = some true ↔
        ∃ v : Val, v.hasTy t = true ∧ arms[k].matches v = true ∧
          ∀ j (hj : j < k), (arms[j]'(by omega)).matches v = false := by
  obtain ⟨bs, fin, hc, hlen, hflags, _⟩ := checkArms_spec t ht fuel arms [] (fun _ h => nomatch h) harms hf
  refine ⟨bs, fin, hc, hlen, fun k hk => ?_⟩
  rw [hflags k hk, List.nil_append]
  -- the arms before `k`, as a list and by index
  have htake : ∀ v : Val, (∀ a ∈ arms.take k, a.matches v = false) ↔
      ∀ j (hj : j < k), (arms[j]'(by omega)).matches v = false := fun v =>
    ⟨fun h j hj => h _ (List.mem_take_iff_getElem.mpr ⟨j, by omega, rfl⟩),
      fun h a ha => by
        obtain ⟨j, hj, rfl⟩ := List.mem_take_iff_getElem.mp ha
        exact h j (by omega)⟩
  simp only [htake]

/-- Warnings: when no arm before the last is a catch-all, the warned arms are exactly those whose flag is
false. PARTIAL: with an interior catch-all arm the compiler warns every later arm (correct) but never the
catch-all arm itself (`interior_catchall_not_warned`). -/
theorem C14_warnings_exact_partial (arms : List Pat) (reach : List Bool)
    (h : findIdx Pat.isCatchAll (arms.take (arms.length - 1)) 0 = none) (k : Nat) :
    k ∈ warned arms reach ↔ k < arms.length ∧ reach.getD k true = false := by
  simp [warned, h]

/-- Run time: the compiled if-chain (conditions as the matcher really builds them) executes the first arm
that matches — provided no or-pattern has an irrefutable alternative (`or_catchall_alt_runtime`). -/
theorem first_match_runs : ∀ (arms : List Pat) (v : Val), (∀ a ∈ arms, a.hasOrCatchAll = false) →
    rtFirst arms v = firstMatch arms v
  | [], _, _ => rfl
  | a :: arms, v, h => by
    simp only [rtFirst, firstMatch, rtMatches_eq (h a (by simp)) v,
      first_match_runs arms v (fun b hb => h b (by simp [hb]))]

/-! ## Non-vacuity of the hypotheses -/

example : inhabL [Ty.tuple [.bool, .enum [.u8, .tuple []]]] = true := by decide +kernel
example : rowsHaveTy [[Pat.tuple [.bool true, .enum 2 0 (.u8 3 3)]], [.or [.tuple [.wild, .enum 2 1 .wild], .wild]]]
    [Ty.tuple [.bool, .enum [.u8, .tuple []]]] := by
  intro r hr; simp at hr; rcases hr with rfl | rfl <;> decide +kernel
example : patsHaveTy [Pat.strct [0, 1] [.bool false, .wild]] [Ty.strct [.bool, .u8]] = true := by decide +kernel
example : mu [Ty.tuple [.bool, .enum [.u8, .tuple []]]] [Pat.tuple [.bool true, .enum 2 0 (.u8 3 3)]] < 100000 := by
  decide +kernel
example : (Pat.or [.bool true, .bool false]).hasOrCatchAll = false := by decide +kernel

/-! ## Deviations of the compiler outside the fragment (each replayed on the real compiler, see
`known_findings.json`) -/

/-- struct patterns are positional over their LISTED fields: `S { a: true, .. }`, `S { a: false, b: _ }` is
exhaustive but reported non-exhaustive. -/
theorem struct_rest_positional_wrong :
    (analyse 50 [.strct [0] [.bool true], .strct [0, 1] [.bool false, .wild]]).exhaustive? = some false ∧
    exhaustiveBF (.strct [.bool, .bool]) [.strct [0] [.bool true], .strct [0, 1] [.bool false, .wild]] = true := by
  decide +kernel

/-- a literal without suffix lives in the u64 range: the witness `[256...MAX]` is reported for a `u8`. -/
theorem literal_width_u64_wrong :
    ((analyse 50 [.num 255 255]).witness == [.or [.num 0 254, .num 256 u64Max]]) = true := by decide +kernel

/-- `0u8` and `7` in one column: internal compiler error. -/
theorem literal_suffix_mix_ice : (analyse 50 [.u8 0 0, .num 7 7]).isIce = true := by decide +kernel

/-- `join_witness_reports` concatenates stacks: for `(true, true)`, `(false, false)` the report lists the
covered pattern `(true | false, false)` and the ill-typed `true`. -/
theorem witness_join_unsound :
    ((analyse 50 [.tuple [.bool true, .bool true], .tuple [.bool false, .bool false]]).witness ==
      [.tuple [.or [.bool true, .bool false], .bool false], .bool true]) = true ∧
    covered [.tuple [.bool true, .bool true], .tuple [.bool false, .bool false]]
      (.tuple [.bool false, .bool false]) = true := by decide +kernel

/-- `true`, `false`, `_`, `x`: arm 2 is unreachable but only arm 3 is warned. -/
theorem interior_catchall_not_warned :
    (analyse 50 [.bool true, .bool false, .wild, .wild]).unreachable = [3] ∧
    unreachableBF .bool [.bool true, .bool false, .wild, .wild] 2 = true := by decide +kernel

/-- `match b { true | _ => 0 }`: at run time `false` matches no arm (revert). -/
theorem or_catchall_alt_runtime :
    rtFirst [.or [.bool true, .wild]] (.bool false) = none ∧
    firstMatch [.or [.bool true, .wild]] (.bool false) = some 0 := by decide +kernel

end SwayVerif.C14
