import SwayVerif.Model.FmtSpec
import SwayVerif.Lemmas.FmtSpec
/-!
# C19 — Formatting preserves program meaning and comments

The formatter itself (11 k lines of per-item layout rules, the comment map, `handle_newlines`) is NOT modelled.
What is proved here is about the SPECIFICATION (`normTok`, `canon`, `FmtOk` and the documented cosmetic rewrites
R1–R6 of `Model/FmtSpec.lean`) and its CHECKER `fmtCheck`; the property is then decided per input by running the
proved checker on the output of the real `Formatter::format` (level translation_validation).
-/
namespace SwayVerif.C19
open SwayVerif.FmtSpec

/-- `normTok` yields a normal form: normalising a normalised stream changes nothing, i.e. every stream is
related to its normal form and the rewrites R1, R2, R3, R5, R6 leave nothing to rewrite in their own output. -/
theorem normTok_idempotent (ts : List Tok) : normTok (normTok ts) = normTok ts := by
  unfold normTok
  have hsub : (fixIter step (ts.map normLeaf)).Sublist (ts.map normLeaf) := fixIter_sublist step_sublist _
  rw [map_normLeaf_of_sublist hsub]
  exact fixIter_idem step_sublist _

/-- `normTok` only deletes tokens of the leaf-normalised stream: it never invents or reorders one. -/
theorem normTok_sublist (ts : List Tok) : (normTok ts).Sublist (ts.map normLeaf) :=
  fixIter_sublist step_sublist _

/-- Every stream that the parser accepts is a correct formatting of itself (the identity formatter satisfies C19). -/
theorem FmtOk_refl (s : List Tok) : FmtOk s s true := ⟨rfl, rfl, rfl⟩

/-- C19 composes: if `b` is a correct formatting of `a` and `c` of `b`, then `c` is a correct formatting of `a`.
Hence C19 for `fmt ∘ fmt` follows from C19 for `fmt`. -/
theorem FmtOk_trans {a b c : List Tok} {pb pc : Bool} (h1 : FmtOk a b pb) (h2 : FmtOk b c pc) : FmtOk a c pc :=
  ⟨h2.1, h1.2.1.trans h2.2.1, h1.2.2.trans h2.2.2⟩

/-- `FmtOk` is symmetric in the two streams (it is the kernel of `canon` and `comments`). -/
theorem FmtOk_symm {a b : List Tok} {p : Bool} (h : FmtOk a b p) : FmtOk b a true :=
  ⟨rfl, h.2.1.symm, h.2.2.symm⟩

/-- Soundness of the validator that the driver runs on the real formatter's output. -/
theorem check_sound (src out : List Tok) (parses : Bool) (h : fmtCheck src out parses = true) :
    FmtOk src out parses := by
  unfold fmtCheck at h
  simp only [Bool.and_eq_true, decide_eq_true_eq] at h
  exact ⟨h.1.1, h.1.2, h.2⟩

/-- … and completeness: the validator rejects only pairs outside the relation (no false alarm is introduced
by the checker itself). -/
theorem check_complete (src out : List Tok) (parses : Bool) (h : FmtOk src out parses) :
    fmtCheck src out parses = true := by
  unfold fmtCheck
  simp only [Bool.and_eq_true, decide_eq_true_eq]
  exact ⟨⟨h.1, h.2.1⟩, h.2.2⟩

/-- What `FmtOk` guarantees, spelled out: the formatted text parses; the two token sequences have the same
normal form under the documented cosmetic rewrites (so they differ at most by those rewrites, since each side
differs from its normal form only by deleted R1/R2/R3/R5 tokens, R6 leaf normalisation and R4 order); the
comments are the same texts in the same order. -/
theorem FmtOk_spelled_out {src out : List Tok} {p : Bool} (h : FmtOk src out p) :
    p = true ∧ sortUse (normTok (toks src)) = sortUse (normTok (toks out)) ∧
    (normTok (toks src)).Sublist ((toks src).map normLeaf) ∧
    (normTok (toks out)).Sublist ((toks out).map normLeaf) ∧
    comments src = comments out :=
  ⟨h.1, h.2.1, normTok_sublist _, normTok_sublist _, h.2.2⟩

/-- **C19, partial.** For every `src`/`out` pair on which the driver's validator answers `true`, the C19 relation
holds. NOT covered (not modelled): that `Formatter::format` produces such an `out` for EVERY parseable source —
the formatter (swayfmt/src/items, utils/language, comments.rs, utils/map/{comments,newline}.rs) is only run, per
input, on every `.sw` file of the repository and on generated variants; the Sway lexer/parser that produce the
streams and the `parses` flag are the real ones and are trusted; `sortUse` (R4) is an executable definition
without a proved normal-form theorem (it is applied to both sides alike, so `FmtOk` is still an equivalence). -/
theorem C19_partial (src out : List Tok) (parses : Bool) :
    fmtCheck src out parses = true ↔ FmtOk src out parses :=
  ⟨check_sound src out parses, check_complete src out parses⟩

/-! Non-vacuity: the relation accepts the documented rewrites and rejects a changed token, a lost comment,
a reordered comment and an unparseable output. -/
section examples
private def p (c : Char) : Tok := ⟨.punct, [c]⟩
private def i (s : List Char) : Tok := ⟨.ident, s⟩
private def o (c : Char) : Tok := ⟨.open, [c]⟩
private def c (ch : Char) : Tok := ⟨.close, [ch]⟩
private def m (s : List Char) : Tok := ⟨.comment, s⟩

-- R1: `f(a,)` ~ `f(a)`
example : fmtCheck [i ['f'], o '(', i ['a'], p ',', c ')'] [i ['f'], o '(', i ['a'], c ')'] true = true := by decide +kernel
-- R3: `use a::{b};` ~ `use a::b;`
example : fmtCheck [i ['u','s','e'], i ['a'], p ':', p ':', o '{', i ['b'], c '}', p ';']
    [i ['u','s','e'], i ['a'], p ':', p ':', i ['b'], p ';'] true = true := by decide +kernel
-- R4: `use a::{c, b};` ~ `use a::{b, c};`
example : fmtCheck [i ['u','s','e'], i ['a'], p ':', p ':', o '{', i ['c'], p ',', i ['b'], c '}', p ';']
    [i ['u','s','e'], i ['a'], p ':', p ':', o '{', i ['b'], p ',', i ['c'], c '}', p ';'] true = true := by decide +kernel
-- R2: `where T: A {` ~ `where T: A, {`
example : fmtCheck [i ['w','h','e','r','e'], i ['T'], p ':', i ['A'], o '{', c '}']
    [i ['w','h','e','r','e'], i ['T'], p ':', i ['A'], p ',', o '{', c '}'] true = true := by decide +kernel
-- R5: `-> (bool);` ~ `-> bool;`
example : fmtCheck [p '-', p '>', o '(', i ['b'], c ')', p ';'] [p '-', p '>', i ['b'], p ';'] true = true := by decide +kernel
-- a one-element tuple type keeps its meaning-bearing comma and parentheses: `-> (b,);` is NOT `-> b;`
example : fmtCheck [p '-', p '>', o '(', i ['b'], p ',', c ')', p ';'] [p '-', p '>', i ['b'], p ';'] true = false := by decide +kernel
-- … in expression position too: `= (b,);` is NOT `= (b);`
example : fmtCheck [p '=', o '(', i ['b'], p ',', c ')', p ';'] [p '=', o '(', i ['b'], c ')', p ';'] true = false := by decide +kernel
-- but the trailing comma of a one-element parameter list is cosmetic: `fn f(b,)` ~ `fn f(b)`
example : fmtCheck [i ['f','n'], i ['f'], o '(', i ['b'], p ',', c ')'] [i ['f','n'], i ['f'], o '(', i ['b'], c ')'] true = true := by decide +kernel
-- R6: a trailing-space / CR difference in a comment is ignored
example : fmtCheck [m ['/','/','x',' ','\r'], i ['a']] [m ['/','/','x'], i ['a']] true = true := by decide +kernel
-- a changed identifier is rejected
example : fmtCheck [i ['a'], p ';'] [i ['b'], p ';'] true = false := by decide +kernel
-- a dropped token is rejected
example : fmtCheck [i ['a'], p ';'] [i ['a']] true = false := by decide +kernel
-- a lost comment is rejected
example : fmtCheck [i ['a'], m ['/','/','x'], p ';'] [i ['a'], p ';'] true = false := by decide +kernel
-- reordered comments are rejected
example : fmtCheck [m ['/','/','x'], m ['/','/','y'], i ['a']] [m ['/','/','y'], m ['/','/','x'], i ['a']] true = false := by decide +kernel
-- an output that does not parse is rejected
example : fmtCheck [i ['a']] [i ['a']] false = false := by decide +kernel
end examples

end SwayVerif.C19
