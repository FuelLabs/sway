import SwayVerif.Model.Usefulness
/-! `range.rs` on singleton ranges (the only ranges that literals produce): `condense_ranges` computes the
maximal runs, hence `do_ranges_equal_range` and `find_exclusionary_ranges` are right. The restriction
matters: the loop merges a range only with the top of the stack, and
`condense [(10, 12), (20, 22), (5, 25)] = some [(5, 25), (20, 22)]`. -/
namespace SwayVerif.Usefulness

def SortedDesc : List Rng → Prop
  | [] => True
  | r :: rs => (∀ x ∈ rs, x.1 ≤ r.1) ∧ SortedDesc rs

theorem mem_insertDesc {r x : Rng} : ∀ {l : List Rng}, x ∈ insertDesc r l ↔ x = r ∨ x ∈ l
  | [] => by simp [insertDesc]
  | y :: ys => by
    unfold insertDesc
    split
    · simp
    · rw [List.mem_cons, mem_insertDesc, List.mem_cons]
      exact or_left_comm

theorem sorted_insertDesc {r : Rng} : ∀ {l : List Rng}, SortedDesc l → SortedDesc (insertDesc r l)
  | [], _ => by simp [insertDesc, SortedDesc]
  | y :: ys, h => by
    unfold insertDesc
    split
    · refine ⟨?_, h⟩
      intro x hx
      rcases List.mem_cons.mp hx with rfl | hx
      · omega
      · have := h.1 x hx; omega
    · refine ⟨?_, sorted_insertDesc h.2⟩
      intro x hx
      rcases mem_insertDesc.mp hx with rfl | hx
      · omega
      · exact h.1 x hx

theorem mem_sortDesc {x : Rng} : ∀ {l : List Rng}, x ∈ sortDesc l ↔ x ∈ l
  | [] => by simp [sortDesc]
  | y :: ys => by simp [sortDesc, mem_insertDesc, mem_sortDesc (l := ys)]

theorem sorted_sortDesc : ∀ (l : List Rng), SortedDesc (sortDesc l)
  | [] => trivial
  | _ :: ys => sorted_insertDesc (sorted_sortDesc ys)

/-- Stack invariant: valid ranges, strictly separated (a gap of at least one value), ascending from the top. -/
def Separated : List Rng → Prop
  | [] => True
  | [a] => a.1 ≤ a.2
  | a :: b :: rest => a.1 ≤ a.2 ∧ a.2 + 2 ≤ b.1 ∧ Separated (b :: rest)

def covers (cs : List Rng) (n : Nat) : Prop := ∃ c ∈ cs, c.1 ≤ n ∧ n ≤ c.2

theorem covers_cons {c : Rng} {cs : List Rng} {n : Nat} :
    covers (c :: cs) n ↔ (c.1 ≤ n ∧ n ≤ c.2) ∨ covers cs n := by
  simp only [covers, List.mem_cons, exists_eq_or_imp]

theorem separated_valid : ∀ {cs : List Rng}, Separated cs → ∀ c ∈ cs, c.1 ≤ c.2
  | [], _ => nofun
  | [_], h => List.forall_mem_cons.mpr ⟨h, nofun⟩
  | _ :: _ :: _, h => List.forall_mem_cons.mpr ⟨h.1, separated_valid h.2.2⟩

theorem overlaps_single {k a b : Nat} (h1 : k ≤ a) (h2 : a ≤ b) : Rng.overlaps (k, k) (a, b) = decide (a = k) := by
  unfold Rng.overlaps
  by_cases h : a = k
  · subst h; simp; omega
  · have : ¬ a ≤ k := by omega
    simp [h, this]
    omega

theorem withinOne_single {k a b : Nat} (h1 : k ≤ a) (h2 : a ≤ b) :
    Rng.withinOne (k, k) (a, b) = decide (a = k + 1) := by
  unfold Rng.withinOne
  rw [overlaps_single h1 h2]
  by_cases h : a = k + 1
  · subst h; simp
  · by_cases h' : a = k
    · subst h'; simp
    · have : ¬ (k > b) := by omega
      simp [h, h', this]
      omega

theorem join_single {k a b : Nat} (h1 : k ≤ a) (h2 : a ≤ b) (h : a = k ∨ a = k + 1) :
    Rng.join (k, k) (a, b) = some (k, b) := by
  have e1 : (if k < a then k else a) = k := by split <;> omega
  have e2 : (if k > b then k else b) = b := by split <;> omega
  have e3 : ¬ (b < k) := by omega
  have e4 : (!decide (a = k) && !decide (a = k + 1)) = false := by rcases h with h | h <;> simp [h]
  unfold Rng.join
  rw [overlaps_single h1 h2, withinOne_single h1 h2]
  simp only [e4, Bool.false_eq_true, if_false, e1, e3]

theorem covers_grow {k a b n : Nat} {l : List Rng} (hj : a = k ∨ a = k + 1) (hab : a ≤ b) :
    covers ((k, b) :: l) n ↔ k = n ∨ covers ((a, b) :: l) n := by
  rw [covers_cons, covers_cons, ← or_assoc]
  exact or_congr_left (show k ≤ n ∧ n ≤ b ↔ k = n ∨ (a ≤ n ∧ n ≤ b) by omega)

theorem covers_single {k n : Nat} {l : List Rng} : covers ((k, k) :: l) n ↔ k = n ∨ covers l n := by
  rw [covers_cons]
  exact or_congr_left ⟨fun h => Nat.le_antisymm h.1 h.2, fun h => h ▸ ⟨Nat.le_refl _, Nat.le_refl _⟩⟩

theorem condenseLoop_spec : ∀ (rest : List Rng) (top : Rng) (below : List Rng),
    Separated (top :: below) → SortedDesc rest → (∀ r ∈ rest, r.1 = r.2 ∧ r.1 ≤ top.1) →
    ∃ cs, condenseLoop (top :: below) rest = some cs ∧ cs ≠ [] ∧ Separated cs ∧
      ∀ n, covers cs n ↔ (covers (top :: below) n ∨ ∃ r ∈ rest, r.1 = n)
  | [] => fun top below hsep _ _ => ⟨top :: below, rfl, List.cons_ne_nil _ _, hsep, by simp⟩
  | (k, k') :: rest => fun (a, b) below hsep hsort hrest => by
    obtain ⟨rfl, hka⟩ : k = k' ∧ k ≤ a := hrest (k, k') List.mem_cons_self
    have hab : a ≤ b := separated_valid hsep (a, b) List.mem_cons_self
    have hrest' : ∀ r ∈ rest, r.1 = r.2 ∧ r.1 ≤ k := fun r hr =>
      ⟨(hrest r (List.mem_cons_of_mem _ hr)).1, hsort.1 r hr⟩
    -- in both cases the new stack covers `k` and what the old one covered
    have hcovers : ∀ {cs top'}, (∀ n, covers cs n ↔ covers top' n ∨ ∃ r ∈ rest, r.1 = n) →
        (∀ n, covers top' n ↔ k = n ∨ covers ((a, b) :: below) n) →
        ∀ n, covers cs n ↔ covers ((a, b) :: below) n ∨ ∃ r ∈ (k, k) :: rest, r.1 = n :=
      fun hcov htop n => by
        rw [hcov n, htop n]
        simp only [List.mem_cons, exists_eq_or_imp]
        exact or_assoc.trans or_left_comm
    by_cases hj : a = k ∨ a = k + 1
    · -- joined with the top
      have hsep' : Separated ((k, b) :: below) := by
        cases below with
        | nil => exact Nat.le_trans hka hab
        | cons c below => exact ⟨Nat.le_trans hka hab, hsep.2⟩
      obtain ⟨cs, hcs, hne, hs, hcov⟩ := condenseLoop_spec rest (k, b) below hsep' hsort.2 hrest'
      refine ⟨cs, ?_, hne, hs, hcovers hcov fun n => covers_grow hj hab⟩
      have hcond : (Rng.overlaps (k, k) (a, b) || Rng.withinOne (k, k) (a, b)) = true := by
        rw [overlaps_single hka hab, withinOne_single hka hab]; simpa using hj
      simp only [condenseLoop, hcond, if_true, join_single hka hab hj, hcs]
    · -- pushed
      have h1 : a ≠ k := fun h => hj (Or.inl h)
      have h2 : a ≠ k + 1 := fun h => hj (Or.inr h)
      have hgap : k + 2 ≤ a := Nat.lt_of_le_of_ne (Nat.lt_of_le_of_ne hka h1.symm) h2.symm
      have hsep' : Separated ((k, k) :: (a, b) :: below) := ⟨Nat.le_refl k, hgap, hsep⟩
      obtain ⟨cs, hcs, hne, hs, hcov⟩ := condenseLoop_spec rest (k, k) ((a, b) :: below) hsep' hsort.2 hrest'
      refine ⟨cs, ?_, hne, hs, hcovers hcov fun n => covers_single⟩
      have hcond : (Rng.overlaps (k, k) (a, b) || Rng.withinOne (k, k) (a, b)) = false := by
        rw [overlaps_single hka hab, withinOne_single hka hab, decide_eq_false h1, decide_eq_false h2]; rfl
      simp only [condenseLoop, hcond, Bool.false_eq_true, if_false, hcs]

theorem condense_spec (ks : List Nat) (hne : ks ≠ []) :
    ∃ cs, condense (ks.map fun k => (k, k)) = some cs ∧ cs ≠ [] ∧ Separated cs ∧
      ∀ n, covers cs n ↔ n ∈ ks := by
  unfold condense
  have hmem : ∀ x : Rng, x ∈ sortDesc (ks.map fun k => (k, k)) ↔ ∃ k ∈ ks, x = (k, k) := by
    intro x; rw [mem_sortDesc]; simp [eq_comm]
  have hsorted := sorted_sortDesc (ks.map fun k => (k, k))
  cases hL : sortDesc (ks.map fun k => (k, k)) with
  | nil =>
    obtain ⟨k, hk⟩ := List.exists_mem_of_ne_nil ks hne
    have := (hmem (k, k)).mpr ⟨k, hk, rfl⟩
    rw [hL] at this
    cases this
  | cons f rest =>
    rw [hL] at hmem hsorted
    obtain ⟨kf, _, rfl⟩ := (hmem f).mp List.mem_cons_self
    obtain ⟨cs, hcs, hne', hs, hcov⟩ := condenseLoop_spec rest (kf, kf) [] (Nat.le_refl kf) hsorted.2
      fun r hr => by
        obtain ⟨k, _, rfl⟩ := (hmem r).mp (List.mem_cons_of_mem _ hr)
        exact ⟨rfl, hsorted.1 _ hr⟩
    refine ⟨cs, hcs, hne', hs, fun n => ?_⟩
    -- the first singleton and the rest are together the sorted list, whose members are those of `ks`
    have hall : covers cs n ↔ ∃ r ∈ (kf, kf) :: rest, r.1 = n := by
      rw [hcov n, covers_single]
      simp only [covers, List.not_mem_nil, false_and, exists_false, or_false, List.mem_cons, exists_eq_or_imp]
    rw [hall]
    constructor
    · rintro ⟨r, hr, rfl⟩
      obtain ⟨k, hk, rfl⟩ := (hmem r).mp hr
      exact hk
    · intro hn
      exact ⟨(n, n), (hmem (n, n)).mpr ⟨n, hn, rfl⟩, rfl⟩

theorem separated_head_le : ∀ {b : Rng} {rest : List Rng}, Separated (b :: rest) → ∀ c ∈ b :: rest, b.1 ≤ c.1
  | _, [], _ => List.forall_mem_cons.mpr ⟨Nat.le_refl _, nofun⟩
  | _, _ :: _, h => List.forall_mem_cons.mpr ⟨Nat.le_refl _, fun c hc =>
      Nat.le_trans (Nat.le_trans h.1 (Nat.le_of_add_right_le h.2.1)) (separated_head_le h.2.2 c hc)⟩

theorem gapsBetween_some : ∀ {cs : List Rng}, Separated cs → ∃ g, gapsBetween cs = some g
  | [], _ => ⟨[], rfl⟩
  | [_], _ => ⟨[], rfl⟩
  | a :: b :: rest, h => by
    obtain ⟨g, hg⟩ := gapsBetween_some h.2.2
    have h2 := h.2.1
    have : ¬ (b.1 - 1 < a.2 + 1) := by omega
    exact ⟨(a.2 + 1, b.1 - 1) :: g, by simp [gapsBetween, this, hg]⟩

theorem condense_u8 {ks : List Nat} (hne : ks ≠ []) (hle : ∀ k ∈ ks, k ≤ 255) :
    ∃ cs, condense (ks.map fun k => (k, k)) = some cs ∧ cs ≠ [] ∧ Separated cs ∧
      (∀ n, covers cs n ↔ n ∈ ks) ∧ ∀ c ∈ cs, c.2 ≤ 255 := by
  obtain ⟨cs, hcs, hne', hsep, hcov⟩ := condense_spec ks hne
  refine ⟨cs, hcs, hne', hsep, hcov, fun c hc => ?_⟩
  exact hle c.2 ((hcov c.2).mp ⟨c, hc, separated_valid hsep c hc, Nat.le_refl _⟩)

theorem rangesEqual_u8 {ks : List Nat} (hne : ks ≠ []) (hle : ∀ k ∈ ks, k ≤ 255) :
    ∃ b, rangesEqual (ks.map fun k => (k, k)) (0, u8Max) = some b ∧ (b = true ↔ ∀ n, n ≤ 255 → n ∈ ks) := by
  obtain ⟨cs, hcs, hne', hsep, hcov, hin⟩ := condense_u8 hne hle
  match cs, hne', hsep, hcov, hcs, hin with
  | [r], _, hsep, hcov, hcs, hin =>
    refine ⟨r == (0, u8Max), by simp [rangesEqual, hcs], ?_⟩
    rw [beq_iff_eq]
    have hv : r.1 ≤ r.2 := hsep
    constructor
    · intro hr n hn
      subst hr
      exact (hcov n).mp ⟨(0, u8Max), by simp, Nat.zero_le _, hn⟩
    · intro h
      obtain ⟨c0, hc0, h01, _⟩ := (hcov 0).mpr (h 0 (by omega))
      obtain ⟨c1, hc1, _, h12⟩ := (hcov 255).mpr (h 255 (by omega))
      simp at hc0 hc1; subst hc0; subst hc1
      have := hin c1 (by simp)
      obtain ⟨a, b⟩ := c1
      simp only [u8Max] at *
      simp only [Prod.mk.injEq]
      omega
  | a :: b :: rest, _, hsep, hcov, hcs, hin =>
    -- the value just after the first run is not covered
    refine ⟨false, by simp [rangesEqual, hcs], ?_⟩
    simp only [Bool.false_eq_true, false_iff]
    intro h
    have hbv := separated_valid hsep b (by simp)
    have hb255 := hin b (by simp)
    have hgap := hsep.2.1
    obtain ⟨c, hc, h1, h2⟩ := (hcov (a.2 + 1)).mpr (h (a.2 + 1) (by omega))
    rcases List.mem_cons.mp hc with rfl | hc
    · omega
    · have := separated_head_le hsep.2.2 c hc
      omega

theorem exclusionary_u8 {ks : List Nat} (hne : ks ≠ []) (hle : ∀ k ∈ ks, k ≤ 255) :
    exclusionary (ks.map fun k => (k, k)) (0, u8Max) ≠ none := by
  obtain ⟨cs, hcs, hne', hsep, _, hin⟩ := condense_u8 hne hle
  unfold exclusionary
  rw [hcs]
  have hall : (cs.all fun c => decide ((0, u8Max).1 ≤ c.1) && decide ((0, u8Max).2 ≥ c.2)) = true := by
    simp only [List.all_eq_true, Bool.and_eq_true, decide_eq_true_eq]
    intro c hc
    exact ⟨Nat.zero_le _, hin c hc⟩
  obtain ⟨g, hg⟩ := gapsBetween_some hsep
  cases cs with
  | nil => exact absurd rfl hne'
  | cons c cs' =>
    have hl := List.getLast?_eq_some_getLast (List.cons_ne_nil c cs')
    simp only [hall, Bool.not_true, Bool.false_eq_true, if_false, List.head?_cons, hl, hg, Option.map_some]
    simp

end SwayVerif.Usefulness
