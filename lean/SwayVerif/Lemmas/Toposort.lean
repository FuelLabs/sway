import SwayVerif.Model.Toposort
/-!
petgraph's `toposort` (`Model/Toposort.lean`) is a DFS that records a finish order and then checks it.
Every iteration of the first phase is one of three steps (`Next`). `Inv1` holds along all of them and makes
the measure `mu` drop, so the fuel `fuelBound` suffices (`inner_rule`, `outer_rule`, `first_phase`). The
second phase accepts a duplicate-free order exactly when each node's predecessors other than itself come
earlier (`VOK`), which gives the index property of an `ok` answer (`VOK_idx`). On a graph without a cycle
`Inv2` says that what lies above an unfinished node on the stack is reachable from it and that the reversed
finish order lists every successor later (`Sorted`); such an order passes the check (`Sorted_VOK`).
Core Lean only.
-/
namespace SwayVerif.Toposort

/-! ## push loops -/

theorem pushSuccs_eq (nx : Nat) (d : List Nat) (succs st : List Nat) :
    pushSuccs nx d succs st =
      if nx ∈ succs then none else some ((succs.filter fun s => decide (s ∉ d)).reverse ++ st) := by
  induction succs generalizing st with
  | nil => simp [pushSuccs]
  | cons s rest ih =>
    unfold pushSuccs
    by_cases h1 : s = nx
    · subst h1; simp
    · have h1' : ¬ nx = s := fun h => h1 h.symm
      by_cases h2 : s ∈ d
      · simp [h1, h1', h2, ih]
      · simp [h1, h1', h2, ih]

theorem pushUndisc_eq (d : List Nat) (succs st : List Nat) :
    pushUndisc d succs st = (succs.filter fun s => decide (s ∉ d)).reverse ++ st := by
  induction succs generalizing st with
  | nil => simp [pushUndisc]
  | cons s rest ih =>
    unfold pushUndisc
    by_cases h2 : s ∈ d
    · simp [h2, ih]
    · simp [h2, ih]

/-! ## one iteration of the `while` loop -/

structure DiGraph.WF (g : DiGraph) : Prop where
  succ_lt : ∀ v s, s ∈ g.succ v → s < g.n
  pred_lt : ∀ v p, p ∈ g.pred v → p < g.n
  cons : ∀ a b, b ∈ g.succ a ↔ a ∈ g.pred b

/-- The three ways in which `step` continues: the top of the stack is discovered and its
undiscovered successors are pushed above it; it is finished and popped; a stale copy of a finished
node is popped. -/
inductive Next (g : DiGraph) : St → St → Prop
  | discover {nx : Nat} {rest d f fs : List Nat} (hd : nx ∉ d) (hs : nx ∉ g.succ nx) :
      Next g ⟨nx :: rest, d, f, fs⟩
        ⟨((g.succ nx).filter fun x => decide (x ∉ nx :: d)).reverse ++ nx :: rest, nx :: d, f, fs⟩
  | finish {nx : Nat} {rest d f fs : List Nat} (hd : nx ∈ d) (hf : nx ∉ f) :
      Next g ⟨nx :: rest, d, f, fs⟩ ⟨rest, d, nx :: f, fs ++ [nx]⟩
  | pop {nx : Nat} {rest d f fs : List Nat} (hd : nx ∈ d) (hf : nx ∈ f) :
      Next g ⟨nx :: rest, d, f, fs⟩ ⟨rest, d, f, fs⟩

theorem step_spec (g : DiGraph) (s : St) :
    match step g s with
    | .next s' => Next g s s'
    | .exit s' => s' = s ∧ s.stack = []
    | .cycle => ∃ a, a ∈ g.succ a := by
  obtain ⟨_ | ⟨nx, rest⟩, d, f, fs⟩ := s
  · exact ⟨rfl, rfl⟩
  · simp only [step, pushSuccs_eq]
    by_cases hd : nx ∈ d
    · by_cases hf : nx ∈ f
      · simp only [hd, hf, not_true_eq_false, if_false]
        exact .pop hd hf
      · simp only [hd, hf, not_true_eq_false, not_false_eq_true, if_false, if_true]
        exact .finish hd hf
    · by_cases hs : nx ∈ g.succ nx
      · simp only [hd, hs, not_false_eq_true, if_true]
        exact ⟨nx, hs⟩
      · simp only [hd, hs, not_false_eq_true, if_true, if_false]
        exact .discover hd hs

/-! ## first phase: basic invariants -/

structure Inv1 (g : DiGraph) (s : St) : Prop where
  stack_lt : ∀ v ∈ s.stack, v < g.n
  fin_disc : ∀ v ∈ s.fin, v ∈ s.disc
  disc_cov : ∀ v ∈ s.disc, v ∈ s.fin ∨ v ∈ s.stack
  fs_fin : ∀ v, v ∈ s.fs ↔ v ∈ s.fin
  fs_nodup : s.fs.Nodup
  disc_lt : ∀ v ∈ s.disc, v < g.n
  no_self : ∀ v ∈ s.disc, v ∉ g.succ v

theorem init_inv1 (g : DiGraph) : Inv1 g St.init := by
  constructor <;> simp [St.init]

theorem Inv1.push {g : DiGraph} {s : St} {new : List Nat} (I : Inv1 g s) (h : ∀ v ∈ new, v < g.n) :
    Inv1 g { s with stack := new ++ s.stack } where
  stack_lt v hv := (List.mem_append.mp hv).elim (h v) (I.stack_lt v)
  fin_disc := I.fin_disc
  disc_cov v hv := (I.disc_cov v hv).imp_right (List.mem_append_right _)
  fs_fin := I.fs_fin
  fs_nodup := I.fs_nodup
  disc_lt := I.disc_lt
  no_self := I.no_self

theorem Inv1.discover {g : DiGraph} {s : St} {nx : Nat} (I : Inv1 g s) (hnx : nx ∈ s.stack)
    (hs : nx ∉ g.succ nx) : Inv1 g { s with disc := nx :: s.disc } where
  stack_lt := I.stack_lt
  fin_disc v hv := List.mem_cons_of_mem _ (I.fin_disc v hv)
  disc_cov := List.forall_mem_cons.mpr ⟨Or.inr hnx, I.disc_cov⟩
  fs_fin := I.fs_fin
  fs_nodup := I.fs_nodup
  disc_lt := List.forall_mem_cons.mpr ⟨I.stack_lt nx hnx, I.disc_lt⟩
  no_self := List.forall_mem_cons.mpr ⟨hs, I.no_self⟩

theorem Inv1.finish {g : DiGraph} {s : St} {nx : Nat} (I : Inv1 g s) (hd : nx ∈ s.disc) (hf : nx ∉ s.fin) :
    Inv1 g { s with fin := nx :: s.fin, fs := s.fs ++ [nx] } where
  stack_lt := I.stack_lt
  fin_disc := List.forall_mem_cons.mpr ⟨hd, I.fin_disc⟩
  disc_cov v hv := (I.disc_cov v hv).imp_left (List.mem_cons_of_mem _)
  fs_fin v := by
    rw [List.mem_append, List.mem_singleton, List.mem_cons, I.fs_fin v]
    exact Or.comm
  fs_nodup := List.nodup_append.mpr ⟨I.fs_nodup, List.pairwise_singleton _ _,
    fun a ha b hb e => hf ((I.fs_fin nx).mp (List.mem_singleton.mp hb ▸ e ▸ ha))⟩
  disc_lt := I.disc_lt
  no_self := I.no_self

theorem Inv1.pop {g : DiGraph} {s : St} {nx : Nat} {rest : List Nat} (I : Inv1 g s) (hst : s.stack = nx :: rest)
    (hf : nx ∈ s.fin) : Inv1 g { s with stack := rest } where
  stack_lt v hv := I.stack_lt v (hst ▸ List.mem_cons_of_mem _ hv)
  fin_disc := I.fin_disc
  disc_cov v hv := by
    rcases I.disc_cov v hv with h | h
    · exact Or.inl h
    · rcases List.mem_cons.mp (hst ▸ h) with rfl | h
      · exact Or.inl hf
      · exact Or.inr h
  fs_fin := I.fs_fin
  fs_nodup := I.fs_nodup
  disc_lt := I.disc_lt
  no_self := I.no_self

theorem Next.inv1 {g : DiGraph} (hg : g.WF) {s s' : St} (h : Next g s s') (I : Inv1 g s) : Inv1 g s' := by
  cases h with
  | discover hd hs =>
    exact (I.discover List.mem_cons_self hs).push fun v hv =>
      hg.succ_lt _ v (List.mem_filter.mp (List.mem_reverse.mp hv)).1
  | finish hd hf => exact (I.finish hd hf).pop rfl List.mem_cons_self
  | pop hd hf => exact I.pop rfl hf

theorem Next.keep {g : DiGraph} {s s' : St} (h : Next g s s') {v : Nat} (hv : v ∈ s.disc ∨ v ∈ s.stack) :
    v ∈ s'.disc ∨ v ∈ s'.stack := by
  cases h with
  | discover hd hs => exact hv.imp (List.mem_cons_of_mem _) (List.mem_append_right _)
  | finish hd hf | pop hd hf =>
    rcases hv with hv | hv
    · exact Or.inl hv
    · rcases List.mem_cons.mp hv with rfl | hv
      · exact Or.inl hd
      · exact Or.inr hv

/-! ## loop bound -/

/-- What a node still costs: its discovery and one step per stack entry pushed then. -/
def wt (g : DiGraph) (d : List Nat) (v : Nat) : Nat := if v ∈ d then 0 else 1 + (g.succ v).length

def wl (g : DiGraph) (l : List Nat) (d : List Nat) : Nat := (l.map (wt g d)).sum

theorem wt_mono (g : DiGraph) (x : Nat) (d : List Nat) (v : Nat) : wt g (x :: d) v ≤ wt g d v := by
  unfold wt
  by_cases h : v ∈ d
  · rw [if_pos h, if_pos (List.mem_cons_of_mem _ h)]; exact Nat.le_refl _
  · rw [if_neg h]; split <;> omega

theorem wt_drop (g : DiGraph) {x : Nat} {d : List Nat} (hd : x ∉ d) :
    wt g (x :: d) x + 1 + (g.succ x).length = wt g d x := by
  rw [wt, wt, if_pos List.mem_cons_self, if_neg hd, Nat.zero_add]

theorem wl_mono (g : DiGraph) (l : List Nat) (x : Nat) (d : List Nat) : wl g l (x :: d) ≤ wl g l d := by
  induction l with
  | nil => exact Nat.le_refl _
  | cons a l ih => exact Nat.add_le_add (wt_mono g x d a) ih

theorem wl_le_nil (g : DiGraph) (l : List Nat) (d : List Nat) : wl g l d ≤ wl g l [] := by
  induction d with
  | nil => exact Nat.le_refl _
  | cons x d ih => exact Nat.le_trans (wl_mono g l x d) ih

theorem wl_drop (g : DiGraph) (l : List Nat) (x : Nat) (d : List Nat) (hx : x ∈ l) (hd : x ∉ d) :
    wl g l (x :: d) + 1 + (g.succ x).length ≤ wl g l d := by
  induction l with
  | nil => cases hx
  | cons a l ih =>
    show wt g (x :: d) a + wl g l (x :: d) + 1 + (g.succ x).length ≤ wt g d a + wl g l d
    rcases List.mem_cons.mp hx with rfl | hx
    · have := wt_drop g hd
      have := wl_mono g l x d
      omega
    · have := ih hx
      have := wt_mono g x d a
      omega

theorem fuelBound_eq (g : DiGraph) : fuelBound g = wl g (List.range g.n) [] + 2 := by
  have : wt g [] = fun v => 1 + (g.succ v).length := funext fun v => if_neg List.not_mem_nil
  rw [fuelBound, wl, this]

def mu (g : DiGraph) (s : St) : Nat := wl g (List.range g.n) s.disc + s.stack.length

theorem Next.mu_lt {g : DiGraph} {s s' : St} (h : Next g s s') (I : Inv1 g s) : mu g s' < mu g s := by
  cases h with
  | @discover nx rest d f fs hd hs =>
    have := wl_drop g (List.range g.n) nx d (List.mem_range.mpr (I.stack_lt nx List.mem_cons_self)) hd
    have := List.length_filter_le (fun x => decide (x ∉ nx :: d)) (g.succ nx)
    simp only [mu, List.length_append, List.length_reverse, List.length_cons] at *
    omega
  | finish hd hf | pop hd hf => exact Nat.add_lt_add_left (Nat.lt_succ_self _) _

/-! ## the two loops

Total correctness: with enough fuel a loop either stops with its invariant, or it has seen a
self-loop. `Inv1` is built in because the measure needs it; `P` is any further invariant. -/

theorem inner_rule {g : DiGraph} (hg : g.WF) (P : St → Prop)
    (hP : ∀ s s', Next g s s' → Inv1 g s → P s → P s') {fuel : Nat} {s : St}
    (I : Inv1 g s) (h0 : P s) (hf : mu g s < fuel) :
    (∃ s', inner g fuel s = .done s' ∧ Inv1 g s' ∧ P s' ∧ s'.stack = [] ∧
      ∀ v, v ∈ s.disc ∨ v ∈ s.stack → v ∈ s'.disc) ∨
    (inner g fuel s = .cycle ∧ ∃ a, a ∈ g.succ a) := by
  induction fuel generalizing s with
  | zero => omega
  | succ fuel ih =>
    have hsp := step_spec g s
    unfold inner
    generalize step g s = r at hsp ⊢
    cases r with
    | exit s1 =>
      obtain ⟨rfl, hst⟩ := hsp
      exact Or.inl ⟨_, rfl, I, h0, hst, fun v hv => hv.elim id fun h => by rw [hst] at h; cases h⟩
    | cycle => exact Or.inr ⟨rfl, hsp⟩
    | next s1 =>
      have hlt := hsp.mu_lt I
      rcases ih (hsp.inv1 hg I) (hP _ _ hsp I h0) (by omega) with ⟨s', h1, I', p', e', hk⟩ | h
      · exact Or.inl ⟨s', h1, I', p', e', fun v hv => hk v (hsp.keep hv)⟩
      · exact Or.inr h

theorem outer_rule {g : DiGraph} (hg : g.WF) (P : St → Prop)
    (hP : ∀ s s', Next g s s' → Inv1 g s → P s → P s')
    (hpush : ∀ s i, s.stack = [] → Inv1 g s → P s → P { s with stack := i :: s.stack })
    {ids : List Nat} (hids : ∀ i ∈ ids, i < g.n) {s : St} (I : Inv1 g s) (h0 : P s) (hs : s.stack = []) :
    (∃ s', outer g (fuelBound g) ids s = .done s' ∧ Inv1 g s' ∧ P s' ∧ s'.stack = [] ∧
      ∀ v, v ∈ s.disc ∨ v ∈ ids → v ∈ s'.disc) ∨
    (outer g (fuelBound g) ids s = .cycle ∧ ∃ a, a ∈ g.succ a) := by
  induction ids generalizing s with
  | nil => exact Or.inl ⟨s, rfl, I, h0, hs, fun v hv => hv.elim id fun h => by cases h⟩
  | cons i is ih =>
    -- the rest of the list is run from a state `t` that knows `i` and all that `s` knew
    have hrest : ∀ t, Inv1 g t → P t → t.stack = [] → (∀ v, v ∈ s.disc ∨ v = i → v ∈ t.disc) →
        (∃ s', outer g (fuelBound g) is t = .done s' ∧ Inv1 g s' ∧ P s' ∧ s'.stack = [] ∧
          ∀ v, v ∈ s.disc ∨ v ∈ i :: is → v ∈ s'.disc) ∨
        (outer g (fuelBound g) is t = .cycle ∧ ∃ a, a ∈ g.succ a) := by
      intro t It pt et ht
      rcases ih (fun j hj => hids j (List.mem_cons_of_mem _ hj)) It pt et with ⟨s', h1, I', p', e', hk⟩ | h
      · refine Or.inl ⟨s', h1, I', p', e', fun v hv => ?_⟩
        rcases hv with hv | hv
        · exact hk v (Or.inl (ht v (Or.inl hv)))
        · rcases List.mem_cons.mp hv with hv | hv
          · exact hk v (Or.inl (ht v (Or.inr hv)))
          · exact hk v (Or.inr hv)
      · exact Or.inr h
    unfold outer
    by_cases hi : i ∈ s.disc
    · rw [if_pos hi]
      exact hrest s I h0 hs fun v hv => hv.elim id fun (e : v = i) => e ▸ hi
    · rw [if_neg hi]
      have I1 : Inv1 g { s with stack := i :: s.stack } :=
        I.push (new := [i]) fun v hv => List.mem_singleton.mp hv ▸ hids i List.mem_cons_self
      have hmu : mu g { s with stack := i :: s.stack } < fuelBound g := by
        have := wl_le_nil g (List.range g.n) s.disc
        simp only [mu, fuelBound_eq, List.length_cons, hs, List.length_nil]
        omega
      rcases inner_rule hg P hP I1 (hpush s i hs I h0) hmu with ⟨s1, h1, I1', p1, e1, hk1⟩ | ⟨h1, hc⟩
      · rw [h1]
        exact hrest s1 I1' p1 e1 fun v hv => hk1 v (hv.imp id fun (e : v = i) => e ▸ List.mem_cons_self)
      · rw [h1]
        exact Or.inr ⟨rfl, hc⟩

/-! ## second phase -/

theorem dfsNext_none {nbrs : Nat → List Nat} {st d : List Nat} (h : ∀ v ∈ st, v ∈ d) :
    dfsNext nbrs st d = (none, [], d) := by
  induction st with
  | nil => simp [dfsNext]
  | cons a st ih =>
    have ha : a ∈ d := h a (List.mem_cons_self)
    simp only [dfsNext, ha, if_true]
    exact ih (fun v hv => h v (List.mem_cons_of_mem _ hv))

theorem dfsNext_some {nbrs : Nat → List Nat} {st d : List Nat} (h : ∃ v ∈ st, v ∉ d) :
    ∃ j st' d', dfsNext nbrs st d = (some j, st', d') := by
  induction st with
  | nil => simp at h
  | cons a st ih =>
    by_cases ha : a ∈ d
    · simp only [dfsNext, ha, if_true]
      apply ih
      obtain ⟨v, hv, hvd⟩ := h
      rcases List.mem_cons.mp hv with rfl | hv
      · exact absurd ha hvd
      · exact ⟨v, hv, hvd⟩
    · simp [dfsNext, ha]

def VOK (g : DiGraph) : List Nat → List Nat → Prop
  | [], _ => True
  | i :: rest, d => (∀ p ∈ g.pred i, p = i ∨ p ∈ d) ∧ VOK g rest (i :: d)

theorem verify_cons_disc {g : DiGraph} {i : Nat} {rest d : List Nat} (hi : i ∈ d) :
    verify g (i :: rest) d = verify g rest d := by
  simp [verify, dfsNext, hi]

theorem verify_cons_new {g : DiGraph} {i : Nat} {rest d : List Nat} (hi : i ∉ d) :
    verify g (i :: rest) d = (decide (∀ p ∈ g.pred i, p = i ∨ p ∈ d) && verify g rest (i :: d)) := by
  simp only [verify, dfsNext, hi, if_false, pushUndisc_eq, List.append_nil]
  by_cases hall : ∀ p ∈ g.pred i, p = i ∨ p ∈ d
  · rw [dfsNext_none fun v hv => ?_, decide_eq_true hall]
    · simp
    · simp only [List.mem_reverse, List.mem_filter, List.mem_cons, decide_eq_true_eq, not_or] at hv
      rcases hall v hv.1 with h | h
      · exact absurd h hv.2.1
      · exact absurd h hv.2.2
  · have : ∃ j st' d', dfsNext g.pred ((g.pred i).filter fun s => decide (s ∉ i :: d)).reverse (i :: d) = (some j, st', d') := by
      apply dfsNext_some
      simp only [Classical.not_forall, not_or] at hall
      obtain ⟨p, hp, hn⟩ := hall
      refine ⟨p, ?_, ?_⟩
      · simp [hp, hn.1, hn.2]
      · simp [hn.1, hn.2]
    obtain ⟨j, st', d', e⟩ := this
    rw [e]; simp [hall]

theorem verify_iff_VOK {g : DiGraph} {order d : List Nat} (hnd : order.Nodup) (hd : ∀ v ∈ order, v ∉ d) :
    verify g order d = true ↔ VOK g order d := by
  induction order generalizing d with
  | nil => simp [verify, VOK]
  | cons i rest ih =>
    have hi : i ∉ d := hd i (List.mem_cons_self)
    have hnd' := List.nodup_cons.mp hnd
    rw [verify_cons_new hi]
    simp only [VOK, Bool.and_eq_true, decide_eq_true_eq]
    rw [ih hnd'.2]
    intro v hv
    simp only [List.mem_cons, not_or]
    exact ⟨fun h => hnd'.1 (h ▸ hv), hd v (List.mem_cons_of_mem _ hv)⟩

theorem idxOf_cons_ne {i a : Nat} (l : List Nat) (h : i ≠ a) : (i :: l).idxOf a = l.idxOf a + 1 := by
  rw [List.idxOf_cons, beq_false_of_ne h, cond_false]

theorem VOK_idx {g : DiGraph} {order d : List Nat} (hnd : order.Nodup) (h : VOK g order d) :
    ∀ a ∈ order, ∀ b ∈ g.pred a, b ≠ a → b ∈ d ∨ (b ∈ order ∧ order.idxOf b < order.idxOf a) := by
  induction order generalizing d with
  | nil => simp
  | cons i rest ih =>
    have hnd' := List.nodup_cons.mp hnd
    obtain ⟨h1, h2⟩ := h
    intro a ha b hb hne
    rcases List.mem_cons.mp ha with rfl | ha
    · rcases h1 b hb with h | h
      · exact absurd h hne
      · exact Or.inl h
    · have hai : a ≠ i := fun e => hnd'.1 (e ▸ ha)
      have hia : i ≠ a := fun e => hai e.symm
      rcases ih hnd'.2 h2 a ha b hb hne with h | ⟨hbr, hlt⟩
      · rcases List.mem_cons.mp h with rfl | h
        · right
          refine ⟨List.mem_cons_self, ?_⟩
          rw [List.idxOf_cons_self, idxOf_cons_ne _ hia]; omega
        · exact Or.inl h
      · right
        have hbi : i ≠ b := fun e => hnd'.1 (e ▸ hbr)
        refine ⟨List.mem_cons_of_mem _ hbr, ?_⟩
        rw [idxOf_cons_ne _ hia, idxOf_cons_ne _ hbi]; omega

def Sorted (g : DiGraph) : List Nat → Prop
  | [] => True
  | u :: rest => (∀ s ∈ g.succ u, s ∈ rest) ∧ Sorted g rest

theorem Sorted_closed {g : DiGraph} {l : List Nat} (h : Sorted g l) : ∀ p ∈ l, ∀ s ∈ g.succ p, s ∈ l := by
  induction l with
  | nil => simp
  | cons u rest ih =>
    intro p hp s hs
    rcases List.mem_cons.mp hp with rfl | hp
    · exact List.mem_cons_of_mem _ (h.1 s hs)
    · exact List.mem_cons_of_mem _ (ih h.2 p hp s hs)

theorem Sorted_VOK {g : DiGraph} (hg : g.WF) {order d : List Nat} (hs : Sorted g order) (hnd : order.Nodup)
    (hcov : ∀ v, v < g.n → v ∈ d ∨ v ∈ order) : VOK g order d := by
  induction order generalizing d with
  | nil => trivial
  | cons i rest ih =>
    have hnd' := List.nodup_cons.mp hnd
    refine ⟨?_, ?_⟩
    · intro p hp
      rcases hcov p (hg.pred_lt i p hp) with h | h
      · exact Or.inr h
      · rcases List.mem_cons.mp h with h | h
        · exact Or.inl h
        · exact absurd (Sorted_closed hs.2 p h i ((hg.cons p i).mpr hp)) hnd'.1
    · apply ih hs.2 hnd'.2
      intro v hv
      rcases hcov v hv with h | h
      · exact Or.inl (List.mem_cons_of_mem _ h)
      · rcases List.mem_cons.mp h with h | h
        · exact Or.inl (h ▸ List.mem_cons_self)
        · exact Or.inr h

/-! ## acyclic graphs: the finish order is a topological order -/

inductive Path (g : DiGraph) : Nat → Nat → Prop
  | edge {a b : Nat} : b ∈ g.succ a → Path g a b
  | cons {a b c : Nat} : b ∈ g.succ a → Path g b c → Path g a c

theorem Path.snoc {g : DiGraph} {a b c : Nat} (h : Path g a b) (hc : c ∈ g.succ b) : Path g a c := by
  induction h with
  | edge h => exact .cons h (.edge hc)
  | cons h _ ih => exact .cons h (ih hc)

/-- the stack entries above the topmost occurrence of `u` -/
def above (u : Nat) (st : List Nat) : List Nat := st.takeWhile (· != u)

theorem above_cons_ne {a u : Nat} (l : List Nat) (h : a ≠ u) : above u (a :: l) = a :: above u l := by
  simp [above, h]

theorem above_cons_self (u : Nat) (l : List Nat) : above u (u :: l) = [] := by
  simp [above]

theorem above_append {u : Nat} {p : List Nat} (l : List Nat) (h : u ∉ p) : above u (p ++ l) = p ++ above u l := by
  unfold above
  apply List.takeWhile_append_of_pos
  intro a ha
  simp only [bne_iff_ne, ne_eq]
  exact fun e => h (e ▸ ha)

structure Inv2 (g : DiGraph) (s : St) : Prop where
  reach : ∀ u ∈ s.disc, u ∉ s.fin → ∀ w ∈ above u s.stack, Path g u w
  succs : ∀ u ∈ s.disc, u ∉ s.fin → ∀ x ∈ g.succ u, x ∈ s.fin ∨ x ∈ above u s.stack
  sorted : Sorted g s.fs.reverse

theorem Next.inv2 {g : DiGraph} (hac : ∀ a, ¬ Path g a a) {s s' : St} (h : Next g s s')
    (I1 : Inv1 g s) (I : Inv2 g s) : Inv2 g s' := by
  obtain ⟨hr, hsu, hso⟩ := I
  cases h with
  | @discover nx rest d f fs hd hs =>
    -- all that matters of the new entries: they are the successors of `nx` not discovered before
    have hnew : ∀ w, w ∈ ((g.succ nx).filter fun x => decide (x ∉ nx :: d)).reverse ↔ w ∈ g.succ nx ∧ w ∉ nx :: d :=
      fun w => by rw [List.mem_reverse, List.mem_filter, decide_eq_true_eq]
    generalize ((g.succ nx).filter fun x => decide (x ∉ nx :: d)).reverse = new at hnew ⊢
    have habove_nx : above nx (new ++ nx :: rest) = new := by
      rw [above_append _ fun h => ((hnew nx).mp h).2 List.mem_cons_self, above_cons_self, List.append_nil]
    have habove : ∀ u ∈ d, above u (new ++ nx :: rest) = new ++ above u (nx :: rest) :=
      fun u hu => above_append _ fun h => ((hnew u).mp h).2 (List.mem_cons_of_mem _ hu)
    -- `nx` lies above every node discovered earlier
    have htop : ∀ u ∈ d, nx ∈ above u (nx :: rest) := fun u hu => by
      have hne : nx ≠ u := fun e => hd (e ▸ hu)
      rw [above_cons_ne _ hne]; exact List.mem_cons_self
    refine ⟨?_, ?_, hso⟩
    · intro u hu huf w hw
      rcases List.mem_cons.mp hu with rfl | hu
      · exact .edge ((hnew w).mp (habove_nx ▸ hw)).1
      · rcases List.mem_append.mp (habove u hu ▸ hw) with hw | hw
        · exact (hr u hu huf nx (htop u hu)).snoc ((hnew w).mp hw).1
        · exact hr u hu huf w hw
    · intro u hu huf x hx
      rcases List.mem_cons.mp hu with rfl | hu
      · by_cases hxd : x ∈ d
        · by_cases hxf : x ∈ f
          · exact Or.inl hxf
          · -- `x` is unfinished below `u`, so `u` is reachable from `x`, and `x` from `u`
            exact absurd ((hr x hxd hxf u (htop x hxd)).snoc hx) (hac x)
        · right
          show x ∈ above u (new ++ u :: rest)
          rw [habove_nx]
          refine (hnew x).mpr ⟨hx, fun h => ?_⟩
          rcases List.mem_cons.mp h with rfl | h
          · exact hs hx
          · exact hxd h
      · rcases hsu u hu huf x hx with h | h
        · exact Or.inl h
        · exact Or.inr (habove u hu ▸ List.mem_append_right _ h)
  | @finish nx rest d f fs hd hf =>
    have habove : ∀ u, u ∉ nx :: f → above u (nx :: rest) = nx :: above u rest :=
      fun u hu => above_cons_ne _ fun e => hu (e ▸ List.mem_cons_self)
    refine ⟨?_, ?_, ?_⟩
    · intro u hu huf w hw
      exact hr u hu (fun e => huf (List.mem_cons_of_mem _ e)) w (habove u huf ▸ List.mem_cons_of_mem _ hw)
    · intro u hu huf x hx
      rcases hsu u hu (fun e => huf (List.mem_cons_of_mem _ e)) x hx with h | h
      · exact Or.inl (List.mem_cons_of_mem _ h)
      · rcases List.mem_cons.mp (habove u huf ▸ h) with rfl | h
        · exact Or.inl List.mem_cons_self
        · exact Or.inr h
    · -- every successor of `nx` is finished: nothing is above `nx`
      show Sorted g (fs ++ [nx]).reverse
      rw [List.reverse_append]
      refine ⟨fun x hx => ?_, hso⟩
      rcases hsu nx hd hf x hx with h | h
      · exact List.mem_reverse.mpr ((I1.fs_fin x).mpr h)
      · rw [above_cons_self] at h; cases h
  | @pop nx rest d f fs hd hf =>
    have habove : ∀ u, u ∉ f → above u (nx :: rest) = nx :: above u rest :=
      fun u hu => above_cons_ne _ fun e => hu (e ▸ hf)
    refine ⟨?_, ?_, hso⟩
    · intro u hu huf w hw
      exact hr u hu huf w (habove u huf ▸ List.mem_cons_of_mem _ hw)
    · intro u hu huf x hx
      rcases hsu u hu huf x hx with h | h
      · exact Or.inl h
      · rcases List.mem_cons.mp (habove u huf ▸ h) with rfl | h
        · exact Or.inl hf
        · exact Or.inr h

/-- With an empty stack every discovered node is finished, so `reach` and `succs` say nothing. -/
theorem push_inv2 {g : DiGraph} {s : St} {i : Nat} (hs : s.stack = []) (I1 : Inv1 g s) (I : Inv2 g s) :
    Inv2 g { s with stack := i :: s.stack } := by
  have hnone : ∀ u ∈ s.disc, u ∉ s.fin → False := fun u hu huf =>
    (I1.disc_cov u hu).elim huf fun h => by rw [hs] at h; cases h
  exact ⟨fun u hu huf => (hnone u hu huf).elim, fun u hu huf => (hnone u hu huf).elim, I.sorted⟩

theorem init_inv2 (g : DiGraph) : Inv2 g St.init := by
  constructor <;> simp [St.init, Sorted]

/-! ## `toposort` as a whole -/

/-- Unless a self-loop is met, the first phase ends with every node finished exactly once. -/
theorem first_phase {g : DiGraph} (hg : g.WF) (P : St → Prop)
    (hP : ∀ s s', Next g s s' → Inv1 g s → P s → P s')
    (hpush : ∀ s i, s.stack = [] → Inv1 g s → P s → P { s with stack := i :: s.stack }) (h0 : P St.init) :
    (∃ s, outer g (fuelBound g) (List.range g.n) St.init = .done s ∧ P s ∧ s.fs.reverse.Nodup ∧
      (∀ v, v ∈ s.fs.reverse ↔ v < g.n) ∧ ∀ v, v < g.n → v ∉ g.succ v) ∨
    (outer g (fuelBound g) (List.range g.n) St.init = .cycle ∧ ∃ a, a ∈ g.succ a) := by
  rcases outer_rule hg P hP hpush (fun i hi => List.mem_range.mp hi) (init_inv1 g) h0 rfl
    with ⟨s, h, I, p, he, hall⟩ | h
  · have hdisc : ∀ v, v < g.n → v ∈ s.disc := fun v hv => hall v (Or.inr (List.mem_range.mpr hv))
    refine Or.inl ⟨s, h, p, List.pairwise_reverse.mpr (I.fs_nodup.imp Ne.symm), fun v => ?_,
      fun v hv => I.no_self v (hdisc v hv)⟩
    rw [List.mem_reverse, I.fs_fin]
    refine ⟨fun h => I.disc_lt v (I.fin_disc v h), fun h => ?_⟩
    exact (I.disc_cov v (hdisc v h)).elim id fun h => by rw [he] at h; cases h
  · exact Or.inr h

theorem toposort_ne_fuel {g : DiGraph} (hg : g.WF) : toposort g ≠ .fuel := by
  unfold toposort
  rcases first_phase hg (fun _ => True) (fun _ _ _ _ _ => trivial) (fun _ _ _ _ _ => trivial) trivial
    with ⟨s, h, -⟩ | ⟨h, -⟩
  · rw [h]; dsimp only; split <;> simp
  · rw [h]; simp

theorem toposort_ne_panic {g : DiGraph} : toposort g ≠ .panic := by
  unfold toposort
  split
  · simp
  · simp
  · split <;> simp

theorem toposort_ok {g : DiGraph} (hg : g.WF) {order : List Nat} (h : toposort g = .ok order) :
    order.Nodup ∧ (∀ v, v ∈ order ↔ v < g.n) ∧ (∀ v, v < g.n → v ∉ g.succ v) ∧ VOK g order [] := by
  unfold toposort at h
  rcases first_phase hg (fun _ => True) (fun _ _ _ _ _ => trivial) (fun _ _ _ _ _ => trivial) trivial
    with ⟨s, hs, -, hnd, hmem, hns⟩ | ⟨hs, -⟩
  · rw [hs] at h
    by_cases hv : verify g s.fs.reverse [] = true
    · simp only [hv, if_true] at h
      injection h with h
      subst h
      exact ⟨hnd, hmem, hns, (verify_iff_VOK hnd (by simp)).mp hv⟩
    · simp [hv] at h
  · rw [hs] at h; simp at h

theorem toposort_acyclic {g : DiGraph} (hg : g.WF) (hac : ∀ a, ¬ Path g a a) : ∃ order, toposort g = .ok order := by
  rcases first_phase hg (Inv2 g) (fun _ _ h I1 I2 => h.inv2 hac I1 I2) (fun _ _ hs I1 I2 => push_inv2 hs I1 I2)
    (init_inv2 g) with ⟨s, hs, I2, hnd, hmem, -⟩ | ⟨-, a, ha⟩
  · have hv : verify g s.fs.reverse [] = true :=
      (verify_iff_VOK hnd (by simp)).mpr (Sorted_VOK hg I2.sorted hnd fun v hv => Or.inr ((hmem v).mpr hv))
    exact ⟨s.fs.reverse, by simp [toposort, hs, hv]⟩
  · exact absurd (.edge ha) (hac a)

/-! ## from the package graph to what `toposort` sees -/

theorem mem_outgoing {g : PkgGraph} {x b : Nat} : b ∈ g.outgoing x ↔ (x, b) ∈ g.edges := by
  simp only [PkgGraph.outgoing, List.mem_map, List.mem_filter, List.mem_reverse, beq_iff_eq]
  constructor
  · rintro ⟨⟨a, b'⟩, ⟨hm, rfl⟩, rfl⟩; exact hm
  · intro h; exact ⟨(x, b), ⟨h, rfl⟩, rfl⟩

theorem mem_incoming {g : PkgGraph} {x a : Nat} : a ∈ g.incoming x ↔ (a, x) ∈ g.edges := by
  simp only [PkgGraph.incoming, List.mem_map, List.mem_filter, List.mem_reverse, beq_iff_eq]
  constructor
  · rintro ⟨⟨a', b⟩, ⟨hm, rfl⟩, rfl⟩; exact hm
  · intro h; exact ⟨(a, x), ⟨h, rfl⟩, rfl⟩

theorem wf_edge {g : PkgGraph} (h : g.wf = true) {a b : Nat} (he : (a, b) ∈ g.edges) : a < g.n ∧ b < g.n := by
  simp only [PkgGraph.wf, List.all_eq_true, Bool.and_eq_true, decide_eq_true_eq] at h
  exact h (a, b) he

theorem reversed_WF {g : PkgGraph} (h : g.wf = true) : g.reversed.WF := by
  refine ⟨?_, ?_, ?_⟩
  · intro v s hs; exact (wf_edge h (mem_incoming.mp hs)).1
  · intro v p hp; exact (wf_edge h (mem_outgoing.mp hp)).2
  · intro a b
    show b ∈ g.incoming a ↔ a ∈ g.outgoing b
    rw [mem_incoming, mem_outgoing]

theorem DependsOn.snoc {g : PkgGraph} {a b c : Nat} (h : DependsOn g a b) (hc : (b, c) ∈ g.edges) : DependsOn g a c := by
  induction h with
  | direct h => exact .trans h (.direct hc)
  | trans h _ ih => exact .trans h (ih hc)

theorem path_reversed {g : PkgGraph} {a b : Nat} (h : Path g.reversed a b) : DependsOn g b a := by
  induction h with
  | edge h => exact .direct (mem_incoming.mp h)
  | cons h _ ih => exact ih.snoc (mem_incoming.mp h)

theorem compilationOrder_ok {g : PkgGraph} {order : List Nat} (h : compilationOrder g = .ok order) :
    g.wf = true ∧ IsTopoOrder g order := by
  unfold compilationOrder at h
  by_cases hw : g.wf = true
  · simp only [hw, if_true] at h
    obtain ⟨hnd, hmem, hns, hv⟩ := toposort_ok (reversed_WF hw) h
    refine ⟨hw, hnd, hmem, ?_⟩
    intro a b he
    have hab := wf_edge hw he
    have hne : b ≠ a := by
      rintro rfl
      exact hns b hab.1 (mem_incoming.mpr he)
    rcases VOK_idx hnd hv a ((hmem a).mpr hab.1) b (mem_outgoing.mpr he) hne with h | h
    · simp at h
    · exact h.2
  · simp [hw] at h

theorem dependsOn_idx {g : PkgGraph} {order : List Nat} (h : IsTopoOrder g order) {a b : Nat}
    (hd : DependsOn g a b) : order.idxOf b < order.idxOf a := by
  induction hd with
  | direct he => exact h.2.2 _ _ he
  | trans he _ ih => exact Nat.lt_trans ih (h.2.2 _ _ he)

theorem cyclic_no_order {g : PkgGraph} (hc : Cyclic g) (order : List Nat) : ¬ IsTopoOrder g order := by
  intro h
  obtain ⟨a, ha⟩ := hc
  exact Nat.lt_irrefl _ (dependsOn_idx h ha)

theorem compilationOrder_total {g : PkgGraph} (hw : g.wf = true) :
    compilationOrder g = .cycle ∨ ∃ order, compilationOrder g = .ok order := by
  have h1 := toposort_ne_fuel (reversed_WF hw)
  have h2 := toposort_ne_panic (g := g.reversed)
  unfold compilationOrder
  simp only [hw, if_true]
  cases h : toposort g.reversed with
  | ok o => exact Or.inr ⟨o, rfl⟩
  | cycle => exact Or.inl rfl
  | panic => exact absurd h h2
  | fuel => exact absurd h h1

theorem nodupB_iff (l : List Nat) : nodupB l = true ↔ l.Nodup := by
  induction l with
  | nil => simp [nodupB]
  | cons x xs ih => simp [nodupB, ih, List.nodup_cons]

end SwayVerif.Toposort
