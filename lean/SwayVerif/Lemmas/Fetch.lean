import SwayVerif.Model.Fetch
/-!
The atomic-rename argument behind C30 (`publish_final_cases`): in a program `pre ++ publish :: post` whose
steps before the rename leave an absent `final` absent (`keepsAbsent`) and whose steps after it do not
touch `final` (`touchesFinal`), every state a failure can leave (each step whole, half done or not at
all: `partials`) has `final` absent or equal to what was staged when the rename ran. Both halves are
instances of one invariant rule for a segment of steps (`segment_inv`). What is staged at that moment
comes from the closed form of the checkout loop, for any number of files (`run_checkoutLoop_stage`);
`mem_failStates` takes the failure states indexed by step number, of which the property speaks, to the
recursive enumeration `failStatesFrom` the rule is about.
-/
namespace SwayVerif.Fetch

def touchesFinal : Op → Bool
  | .rmFinal => true
  | .mkdir .final => true
  | .writeFile .final _ => true
  | .writeMarker .final => true
  | .publish => true
  | _ => false

theorem run_nil (n : Nat) (s : St) : run n [] s = s := rfl

theorem run_cons (n : Nat) (op : Op) (ops : List Op) (s : St) :
    run n (op :: ops) s = run n ops (exec n op s) := rfl

theorem run_append (n : Nat) (a b : List Op) (s : St) :
    run n (a ++ b) s = run n b (run n a s) :=
  List.foldl_append

theorem onError_final (s : St) : (onError s).final = s.final := by
  unfold onError dropTmp
  split <;> rfl

theorem settle_final (k : Kind) (s : St) : (settle k s).final = s.final := by
  cases k
  · rfl
  · exact onError_final s

theorem partials_final (n : Nat) (op : Op) (s : St) (h : touchesFinal op = false) :
    ∀ t ∈ partials n op s, t.final = s.final := by
  intro t ht
  cases op with
  | rmFinal => cases h
  | publish => cases h
  | writeFile tg i =>
    cases tg with
    | final => cases h
    | stage =>
      simp only [partials, exec, St.setTree, St.tree, List.mem_cons, List.mem_nil_iff, or_false] at ht
      rcases ht with rfl | rfl | rfl <;> rfl
  | writeMarker tg =>
    cases tg with
    | final => cases h
    | stage =>
      simp only [partials, exec, St.setTree, St.tree, List.mem_cons, List.mem_nil_iff, or_false] at ht
      rcases ht with rfl | rfl | rfl <;> rfl
  | mkdir tg =>
    cases tg with
    | final => cases h
    | stage =>
      simp only [partials, exec, List.mem_cons, List.mem_nil_iff, or_false] at ht
      rcases ht with rfl | rfl
      · rfl
      · split <;> rfl
  | tmpClear =>
    simp only [partials, exec, dropTmp] at ht
    split at ht
    · simp only [List.mem_cons, List.mem_nil_iff, or_false] at ht
      rcases ht with rfl | rfl | rfl <;> rfl
    · simp only [List.mem_cons, List.mem_nil_iff, or_false] at ht
      rw [ht]
  | scopeEnd =>
    simp only [partials, exec, dropTmp, List.mem_cons, List.mem_nil_iff, or_false] at ht
    rcases ht with rfl | rfl | rfl <;> rfl
  | _ =>
    -- the steps without an intermediate state: nothing happened, or all of it
    simp only [partials, exec, List.mem_cons, List.mem_nil_iff, or_false] at ht
    rcases ht with rfl | rfl <;> rfl

theorem exec_mem_partials (n : Nat) (op : Op) (s : St) : exec n op s ∈ partials n op s := by
  unfold partials
  split
  · exact .tail _ (.tail _ (.head _))
  · exact .tail _ (.tail _ (.head _))
  · split
    · exact .tail _ (.tail _ (.head _))
    · next h => rw [exec, if_neg h]; exact .head _
  · split
    · exact .tail _ (.tail _ (.head _))
    · next h => rw [exec, if_neg h]; exact .head _
  · exact .tail _ (.tail _ (.head _))
  · exact .tail _ (.head _)

theorem self_mem_partials (n : Nat) (op : Op) (s : St) : s ∈ partials n op s := by
  unfold partials
  repeat' split
  all_goals exact .head _

/-- `if path.exists() { remove_dir_all(path) }` on a directory that does not exist. -/
theorem partials_rmFinal_gone (n : Nat) (s : St) (h : s.final.present = false) :
    partials n .rmFinal s = [s] := by
  simp [partials, h]

def keepsAbsent (op : Op) : Bool := !touchesFinal op || decide (op = .rmFinal)

theorem partials_keepsAbsent (n : Nat) (op : Op) (s : St) (h : keepsAbsent op = true)
    (hs : s.final = Tree.gone) : ∀ t ∈ partials n op s, t.final = Tree.gone := by
  intro t ht
  by_cases hr : op = .rmFinal
  · subst hr
    rw [partials_rmFinal_gone n s (by rw [hs]; rfl)] at ht
    simp only [List.mem_cons, List.mem_nil_iff, or_false] at ht
    rw [ht, hs]
  · have h' : touchesFinal op = false := by
      simp only [keepsAbsent, Bool.or_eq_true, Bool.not_eq_true', decide_eq_true_eq] at h
      rcases h with h | h
      · exact h
      · exact absurd h hr
    rw [partials_final n op s h' t ht, hs]

/-! ### Failure states along a program -/

theorem mem_failStatesFrom_append (n : Nat) (a b : List Op) (s : St) (t : St) :
    t ∈ failStatesFrom n (a ++ b) s ↔ t ∈ failStatesFrom n a s ∨ t ∈ failStatesFrom n b (run n a s) := by
  induction a generalizing s with
  | nil => simp [failStatesFrom, run_nil]
  | cons op rest ih =>
    simp only [List.cons_append, failStatesFrom, List.mem_append, run_cons, ih, or_assoc]

theorem partials_mem_failStatesFrom (n : Nat) (prog : List Op) (s0 : St) (p : Nat) (op : Op)
    (hop : prog[p]? = some op) : ∀ t ∈ partials n op (run n (prog.take p) s0), t ∈ failStatesFrom n prog s0 := by
  induction prog generalizing s0 p with
  | nil => simp at hop
  | cons o rest ih =>
    intro t ht
    cases p with
    | zero =>
      simp only [List.getElem?_cons_zero, Option.some.injEq] at hop
      subst hop
      simp only [List.take_zero, run_nil] at ht
      simp only [failStatesFrom, List.mem_append]
      exact .inl ht
    | succ q =>
      simp only [List.getElem?_cons_succ] at hop
      simp only [List.take_succ_cons, run_cons] at ht
      simp only [failStatesFrom, List.mem_append]
      exact .inr (ih (exec n o s0) q hop t ht)

theorem mem_failStates (n : Nat) (prog : List Op) (s0 : St) (p : Nat) (k : Kind) (t : St)
    (h : t ∈ failStates n prog s0 p k) : ∃ u ∈ failStatesFrom n prog s0, t = settle k u := by
  unfold failStates at h
  cases hop : prog[p]? with
  | none => simp [hop] at h
  | some op =>
    simp only [hop, List.mem_map] at h
    obtain ⟨u, hu, rfl⟩ := h
    exact ⟨u, partials_mem_failStatesFrom n prog s0 p op hop u hu, rfl⟩

theorem segment_inv (n : Nat) (P : St → Prop) (ops : List Op)
    (h : ∀ op ∈ ops, ∀ s, P s → ∀ t ∈ partials n op s, P t) (s : St) (hs : P s) :
    (∀ t ∈ failStatesFrom n ops s, P t) ∧ P (run n ops s) := by
  induction ops generalizing s with
  | nil => exact ⟨fun _ ht => (nomatch ht), hs⟩
  | cons op rest ih =>
    have hop := h op List.mem_cons_self s hs
    obtain ⟨h1, h2⟩ := ih (fun o ho => h o (List.mem_cons_of_mem _ ho)) _ (hop _ (exec_mem_partials n op s))
    refine ⟨fun t ht => ?_, h2⟩
    rw [failStatesFrom, List.mem_append] at ht
    exact ht.elim (hop t) (h1 t)

theorem segment_keepsAbsent (n : Nat) (ops : List Op) (s : St) (hops : ∀ op ∈ ops, keepsAbsent op = true)
    (hs : s.final = Tree.gone) :
    (∀ t ∈ failStatesFrom n ops s, t.final = Tree.gone) ∧ (run n ops s).final = Tree.gone :=
  segment_inv n (·.final = Tree.gone) ops (fun op ho u => partials_keepsAbsent n op u (hops op ho)) s hs

theorem segment_frame (n : Nat) (ops : List Op) (s : St) (hops : ∀ op ∈ ops, touchesFinal op = false) :
    (∀ t ∈ failStatesFrom n ops s, t.final = s.final) ∧ (run n ops s).final = s.final :=
  segment_inv n (·.final = s.final) ops
    (fun op ho u hu t ht => (partials_final n op u (hops op ho) t ht).trans hu) s rfl

theorem publish_final_cases (n : Nat) (pre post : List Op) (s : St) (hs : s.final = Tree.gone)
    (hpre : ∀ op ∈ pre, keepsAbsent op = true) (hpost : ∀ op ∈ post, touchesFinal op = false) :
    ∀ u ∈ failStatesFrom n (pre ++ .publish :: post) s, u.final = Tree.gone ∨ u.final = (run n pre s).stage := by
  intro u hu
  obtain ⟨hfail, hend⟩ := segment_keepsAbsent n pre s hpre hs
  -- the rename is atomic: it happens (if there is a staging directory) or it does not
  have hpub : (exec n .publish (run n pre s)).final = Tree.gone ∨
      (exec n .publish (run n pre s)).final = (run n pre s).stage := by
    rw [exec]
    split
    · exact .inr rfl
    · exact .inl hend
  rw [mem_failStatesFrom_append, failStatesFrom, List.mem_append] at hu
  rcases hu with hu | hu | hu
  · exact .inl (hfail u hu)
  · rcases List.mem_cons.mp hu with rfl | hu
    · exact .inl hend
    · rw [List.mem_singleton.mp hu]
      exact hpub
  · rw [(segment_frame n post _ hpost).1 u hu]
    exact hpub

/-! ### The checkout loop, any number of files -/

theorem set_replicate_boundary (k j : Nat) (c a : FileSt) :
    (List.replicate k c ++ List.replicate (j + 1) a).set k c =
      List.replicate (k + 1) c ++ List.replicate j a := by
  induction k with
  | zero => simp [List.replicate_succ]
  | succ k ih =>
    rw [List.replicate_succ, List.cons_append, List.set_cons_succ, ih]
    simp [List.replicate_succ]

theorem checkoutLoop_succ (t : Target) (k : Nat) :
    checkoutLoop t (k + 1) = checkoutLoop t k ++ [.point .checkoutProgress k, .writeFile t k] := by
  simp [checkoutLoop, List.range_succ, List.flatMap_append]

theorem run_checkoutLoop_stage (n k j : Nat) (hk : k + j = n) (s : St)
    (hs : s.stage = Tree.fresh n) :
    run n (checkoutLoop .stage k) s =
      { s with stage := ⟨true, List.replicate k .complete ++ List.replicate j .absent, .absent⟩ } := by
  induction k generalizing j with
  | zero =>
    have : j = n := by omega
    subst this
    simp only [checkoutLoop, List.range_zero, List.flatMap_nil, run_nil, List.replicate_zero, List.nil_append]
    cases s
    simp only [Tree.fresh] at hs
    simp [hs]
  | succ k ih =>
    rw [checkoutLoop_succ, run_append, ih (j + 1) (by omega)]
    simp only [run_cons, run_nil, exec, St.setTree, St.tree, Tree.setFile, if_true]
    rw [set_replicate_boundary]

theorem mem_checkoutLoop (t : Target) (k : Nat) (op : Op) (h : op ∈ checkoutLoop t k) :
    (∃ i, op = .point .checkoutProgress i) ∨ (∃ i, op = .writeFile t i) := by
  simp only [checkoutLoop, List.mem_flatMap, List.mem_range, List.mem_cons, List.mem_nil_iff, or_false] at h
  obtain ⟨i, _, rfl | rfl⟩ := h
  · exact .inl ⟨i, rfl⟩
  · exact .inr ⟨i, rfl⟩

/-! ### Shape of the code (compared with the token lists of `gen/fetch_steps.py`) -/

def Pt.index : Pt → Nat
  | .tmpRepoBegin => 0 | .tmpRepoCleared => 1 | .tmpRepoInited => 2 | .tmpRepoFetched => 3
  | .tmpRepoUsed => 4 | .lockFileCreated => 5 | .fetchNeeded => 6 | .headSet => 7
  | .stagingDirCreated => 8 | .checkoutProgress => 9 | .checkoutDone => 10 | .indexFileWritten => 11
  | .checkoutDirRemoved => 12 | .checkoutParentCreated => 13 | .checkoutPublished => 14
  | .fetchDone => 15 | .checkoutDirCreated => 16

/-- The tokens `gen/fetch_steps.py` emits for the source text of a step. -/
def Op.shape : Op → List Nat
  | .point .checkoutProgress _ => [24]      -- `verif::checkout_points(&mut checkout)`
  | .point pt _ => [100 + pt.index]         -- `verif_fault!("<name>")`
  | .lockFile => [17]                       -- `path_lock(repo_path)`
  | .tmpClear => [27, 1]                    -- `repo_dir.exists()`, `remove_dir_all(&repo_dir)`
  | .guardOn => [2, 23]                     -- `scopeguard::guard(`, `remove_dir_all(dir)`
  | .tmpInit => [3]                         -- `Repository::init(&repo_dir)`
  | .tmpFetch => [4]                        -- `.fetch(&refspecs`
  | .setHead => [6]                         -- `set_head_detached(`
  | .rmFinal => [26, 7]                     -- `path.exists()`, `remove_dir_all(&path)`
  | .mkdir .stage => [25, 8]                -- `staging_path = tmp_git_repo_dir(..).join(..)`, `create_dir_all(&staging_path)`
  | .mkdir .final => [9]                    -- `create_dir_all(&path)`
  | .mkParent => [10]                       -- `create_dir_all(parent)`
  | .writeFile _ _ => []                    -- inside libgit2
  | .checkoutEnd => [11]                    -- `checkout_head(`
  | .writeMarker .stage => [14]             -- `fs::write(staging_path.join(".forc_index")`
  | .writeMarker .final => [15]             -- `fs::write(path.join(".forc_index")`
  | .publish => [16]                        -- `fs::rename(&staging_path, &path)`
  | .scopeEnd => []                         -- implicit drop of the guard

def shapeOf (ops : List Op) : List Nat := ops.flatMap Op.shape

/-- `with_tmp_git_repo`: prologue, `f(repo)` (5), epilogue. -/
def shapeWithTmpRepo : List Nat := shapeOf (tmpRepoPrologue 0) ++ [5] ++ shapeOf (tmpRepoEpilogue 0)

/-- `fetch`: `with_tmp_git_repo(` (22) and the closure; `target_dir(&staging_path)` is 12. -/
def shapeFetchFn : List Nat :=
  [22] ++ shapeOf fixedClosurePre ++ [12] ++ shapeOf (checkoutFiles .stage 0) ++ shapeOf fixedClosureMid ++
  shapeOf [.publish] ++ shapeOf fixedClosurePost

/-- `<Pinned as Fetch>::fetch`: lock, the decision `!repo_path.exists()` (19) = `needsFetch`, the call of
`fetch` (20), `find_within(repo_path` (21). -/
def shapePinnedFetch : List Nat :=
  shapeOf (fetchEntry.take 2) ++ [19] ++ shapeOf (fetchEntry.drop 2) ++ [20] ++ shapeOf [.point .fetchDone 0] ++ [21]

/-- `pin`: only `with_tmp_git_repo(`; its closure is read-only. -/
def shapePinFn : List Nat := [22]

end SwayVerif.Fetch
