import SwayVerif.Lemmas.Lexer
/-! Each sub-lexer of `Model/Lexer.lean` meets `SubOK` (the escape parser: `EscOK`): it only moves forward in the
stream, and every span it records runs between positions the stream has stood at. -/
namespace SwayVerif.Lexer

variable {text : List CC}

/-! ## Line comments -/

theorem docStyleOf_some {r : List CC} {b : Bool} (h : docStyleOf r = some b) :
    ∃ x r', r = x :: r' ∧ x.c ≠ '\n' ∧ u8len x.c = 1 := by
  cases r with
  | nil => simp [docStyleOf] at h
  | cons x r' =>
    refine ⟨x, r', rfl, ?_⟩
    simp only [docStyleOf] at h
    by_cases hn : x.c = '\n'
    · simp [hn] at h
    · refine ⟨hn, ?_⟩
      by_cases hb : x.c = '!'
      · rw [hb]; exact u8len_bang
      · by_cases hs : x.c = '/'
        · rw [hs]; exact u8len_slash
        · simp [hn, hb, hs] at h

theorem lexLineComment_spec {index pos : Nat} {s : CC} {r : List CC} (kind : CommentKind)
    (hs : Suf text pos (s :: r)) (hi : Bd text index) (hpos : pos = index + 1) (hsc : s.c = '/') :
    SubOK text index pos (s :: r) (lexLineComment (blen text) index kind pos (s :: r)) := by
  have hs1 : u8len s.c = 1 := by rw [hsc]; exact u8len_slash
  unfold lexLineComment
  simp only []
  cases hd : docStyleOf r with
  | none =>
    obtain ⟨hadv, hb, hlo, hhi⟩ := findNl_spec hs.cons
    exact .oneTok ((Adv.cons _ _ _).trans hadv) rfl ⟨hi, hb, by omega⟩ (Nat.le_refl _) hhi
      (List.forall_mem_nil _) (List.forall_mem_nil _) rfl
  | some inner =>
    obtain ⟨x, r', rfl, hxn, hx1⟩ := docStyleOf_some hd
    -- the comment text starts after the third character, at `index + 3`
    have e : pos + u8len s.c + u8len x.c = index + 3 := by omega
    rw [findNl, if_neg hxn]
    obtain ⟨hadv, hb, hlo, hhi⟩ := findNl_spec hs.cons.cons
    exact .oneTok ((Adv.cons2 _ _ _ _).trans hadv) rfl ⟨hi, hb, by omega⟩ (Nat.le_refl _) hhi
      (List.forall_mem_nil _) (aux_one ⟨e ▸ hs.cons.cons.bd, hb, by omega⟩) rfl

/-! ## Block comments -/

def BlockPost (text : List CC) (lo pos : Nat) (r : List CC) : BlockRes → Prop
  | .closed a b _ p2 r2 => Adv pos r p2 r2 ∧ Bd text a ∧ lo ≤ a ∧ a ≤ b ∧ b = p2
  | .unclosed top p2 => Adv pos r p2 [] ∧ Bd text top ∧ top < p2
  | .bad _ => False

theorem BlockPost.mono {lo pos p' : Nat} {r r' : List CC} {res : BlockRes}
    (a : Adv pos r p' r') (h : BlockPost text lo p' r' res) : BlockPost text lo pos r res := by
  cases res with
  | closed a' b ml p2 r2 => exact ⟨a.trans h.1, h.2⟩
  | unclosed top p2 => exact ⟨a.trans h.1, h.2⟩
  | bad p => exact h

/-- The invariant of `unclosed_indices`: every pending `/*` starts on a boundary in `[lo, pos)`. -/
def StackOK (text : List CC) (lo pos : Nat) (stack : List Nat) : Prop := ∀ i ∈ stack, Bd text i ∧ lo ≤ i ∧ i < pos

theorem StackOK.mono {lo pos pos' : Nat} {stack : List Nat} (h : StackOK text lo pos stack)
    (hp : pos ≤ pos') : StackOK text lo pos' stack :=
  fun i hi => ⟨(h i hi).1, (h i hi).2.1, Nat.lt_of_lt_of_le (h i hi).2.2 hp⟩

theorem StackOK.push {lo pos i : Nat} {stack : List Nat} (h : StackOK text lo pos stack)
    (hb : Bd text i) (hlo : lo ≤ i) (hi : i < pos) : StackOK text lo pos (i :: stack) :=
  List.forall_mem_cons.2 ⟨⟨hb, hlo, hi⟩, h⟩

theorem StackOK.tail {lo pos i : Nat} {stack : List Nat} (h : StackOK text lo pos (i :: stack)) :
    StackOK text lo pos stack :=
  (List.forall_mem_cons.1 h).2

theorem StackOK.lo_lt {lo pos : Nat} {stack : List Nat} (h : StackOK text lo pos stack)
    (hs : stack ≠ []) : lo < pos := by
  cases stack with
  | nil => exact absurd rfl hs
  | cons i _ => exact Nat.lt_of_le_of_lt (h i (.head _)).2.1 (h i (.head _)).2.2

theorem BlockPost.unclosed {lo pos p : Nat} {r : List CC} {top : Nat} {tail : List Nat}
    (a : Adv pos r p []) (h : StackOK text lo pos (top :: tail)) : BlockPost text lo pos r (.unclosed top p) :=
  ⟨a, (h top (.head _)).1, Nat.lt_of_lt_of_le (h top (.head _)).2.2 a.le⟩

theorem BlockPost.step {lo pos p' : Nat} {r r' : List CC} {stack : List Nat} {res : BlockRes}
    (a : Adv pos r p' r') (hst : StackOK text lo pos stack)
    (ih : StackOK text lo p' stack → BlockPost text lo p' r' res) : BlockPost text lo pos r res :=
  .mono a (ih (hst.mono a.le))

theorem blockLoop_spec {lo : Nat} (r : List CC) (pos : Nat) (stack : List Nat) (ml : Bool)
    (h : Suf text pos r) (hs : stack ≠ []) (hst : StackOK text lo pos stack) :
    BlockPost text lo pos r (blockLoop r pos stack ml) := by
  fun_induction blockLoop r pos stack ml
  case case1 => exact .unclosed (Adv.refl _ _) hst
  case case2 => exact absurd rfl hs
  case case3 => exact .unclosed (Adv.cons _ _ _) hst
  case case4 => exact absurd rfl hs
  case case5 => exact absurd rfl hs
  case case6 x pos ml p1 hx y xs p2 hy start st hemp =>
    have ⟨hb, hlo, hlt⟩ := hst start (.head _)
    have hy1 : u8len y.c = 1 := by rw [hy]; exact u8len_slash
    exact ⟨Adv.cons2 _ _ _ _, hb, hlo, by simp only [p1]; omega, by simp only [p2, hy1]⟩
  case case7 x pos ml p1 hx y xs p2 hy start st hne ih =>
    exact .step (Adv.cons2 _ _ _ _) hst.tail (ih h.cons.cons (by rintro rfl; exact hne rfl))
  case case8 x pos stack ml p1 hx y xs p2 hy ih => exact .step (Adv.cons2 _ _ _ _) hst (ih h.cons.cons hs)
  case case9 => exact .unclosed (Adv.cons _ _ _) hst
  case case10 => exact absurd rfl hs
  case case11 x pos stack ml p1 hx hx2 y xs p2 hy ih =>
    -- a nested `/*` at `pos`
    have a := Adv.cons2 pos x y xs
    have hlt : pos < p2 := Nat.lt_of_lt_of_le (Nat.lt_add_of_pos_right (u8len_pos x.c)) (Nat.le_add_right _ _)
    exact .mono a (ih h.cons.cons (List.cons_ne_nil _ _) ((hst.mono a.le).push h.bd (Nat.le_of_lt (hst.lo_lt hs)) hlt))
  case case12 x pos stack ml p1 hx hx2 y xs p2 hy ih => exact .step (Adv.cons2 _ _ _ _) hst (ih h.cons.cons hs)
  case case13 x t pos stack ml p1 hx hx2 hx3 ih => exact .step (Adv.cons _ _ _) hst (ih h.cons hs)
  case case14 x t pos stack ml p1 hx hx2 hx3 ih => exact .step (Adv.cons _ _ _) hst (ih h.cons hs)

theorem lexBlockComment_spec {index pos : Nat} {s : CC} {r : List CC}
    (hs : Suf text pos (s :: r)) (hi : Bd text index) (hlt : index < pos) :
    SubOK text index pos (s :: r) (lexBlockComment text (blen text) index pos (s :: r)) := by
  have spec := blockLoop_spec (text := text) (lo := index) r (pos + u8len s.c) [index] false hs.cons (List.cons_ne_nil _ _)
    (StackOK.push (List.forall_mem_nil _) hi (Nat.le_refl _) (Nat.lt_add_right _ hlt))
  unfold lexBlockComment
  simp only []
  generalize blockLoop r (pos + u8len s.c) [index] false = res at spec
  cases res with
  | closed a b ml p2 r2 =>
    obtain ⟨h1, h2, h3, h4, rfl⟩ := spec
    exact .oneTok ((Adv.cons _ _ _).trans h1) rfl ⟨h2, (hs.cons.adv h1).bd, h4⟩ h3 (Nat.le_refl _)
      (List.forall_mem_nil _) (List.forall_mem_nil _) rfl
  | unclosed top p2 =>
    obtain ⟨h1, h2, h3⟩ := spec
    have hlt' : top < blen text := (hs.cons.adv h1).nil ▸ h3
    exact .noTok ((Adv.cons _ _ _).trans h1) rfl (errs_one (walkBack_span h2 (Nat.le_sub_one_of_lt hlt')))
      (List.forall_mem_nil _) (decide_eq_false (Nat.ne_zero_of_lt hlt'))
  | bad p => exact spec.elim

/-! ## Escapes -/

theorem toDigit_lt {c : Char} {radix d : Nat} (h : toDigit c radix = some d) : d < radix := by
  unfold toDigit at h
  simp only [] at h
  split at h
  · split at h
    · simp at h; omega
    · simp at h
  · simp at h

theorem charFromU32?_isSome_of_lt {n : Nat} (h : n < 0xd800) : ∃ c, charFromU32? n = some c := by
  unfold charFromU32?
  have : n.isValidChar := Or.inl h
  simp [this]

/-- What `parse_escape_code` guarantees. -/
structure EscOK (text : List CC) (pos : Nat) (rest : List CC) (e : EscRes) : Prop where
  adv : Adv pos rest e.pos e.rest
  errs : ∀ x ∈ e.errs, SpanOK text x.start x.stop
  aux : ∀ a ∈ e.aux, SpanOK text a.1 a.2
  bad : e.bad = false

theorem EscOK.plain {pos p' : Nat} {rest r' : List CC} {res : Esc} (a : Adv pos rest p' r') :
    EscOK text pos rest { res := res, pos := p', rest := r' } :=
  ⟨a, List.forall_mem_nil _, List.forall_mem_nil _, rfl⟩

theorem EscOK.oneErr {pos p' : Nat} {rest r' : List CC} {res : Esc} {k : ErrKind} {s t : Nat}
    (a : Adv pos rest p' r') (h : SpanOK text s t) :
    EscOK text pos rest { res := res, pos := p', rest := r', errs := [⟨k, s, t⟩] } :=
  ⟨a, errs_one h, List.forall_mem_nil _, rfl⟩

/-- `start.getD dEnd` is what the model later reads: `digits_start_position_opt.unwrap_or(digits_end_position)`. -/
def UDigPost (text : List CC) (pos : Nat) (r : List CC) : UDig → Prop
  | .eof p => Adv pos r p []
  | .badDigit at_ c p r' => Adv pos r p r' ∧ Bd text at_ ∧ p = at_ + u8len c
  | .closed dEnd start _ p r' =>
    Adv pos r p r' ∧ Bd text dEnd ∧ pos ≤ dEnd ∧ dEnd ≤ p ∧ Bd text (start.getD dEnd) ∧ start.getD dEnd ≤ dEnd

theorem UDigPost.mono {pos p' : Nat} {r r' : List CC} {res : UDig}
    (a : Adv pos r p' r') (h : UDigPost text p' r' res) : UDigPost text pos r res := by
  cases res with
  | eof p => exact a.trans h
  | badDigit at_ c p r'' => exact ⟨a.trans h.1, h.2⟩
  | closed dEnd start v p r'' => exact ⟨a.trans h.1, h.2.1, Nat.le_trans a.le h.2.2.1, h.2.2.2⟩

theorem uDigits_spec (r : List CC) (pos : Nat) (start : Option Nat) (v : Nat)
    (h : Suf text pos r) (hst : Bd text (start.getD pos) ∧ start.getD pos ≤ pos) :
    UDigPost text pos r (uDigits r pos start v) := by
  induction r generalizing pos start v with
  | nil => exact Adv.refl _ _
  | cons x r ih =>
    unfold uDigits
    split
    · exact ⟨Adv.cons _ _ _, h.bd, Nat.le_refl _, Nat.le_add_right _ _, hst⟩
    · split
      · exact ⟨Adv.cons _ _ _, h.bd, rfl⟩
      · refine UDigPost.mono (Adv.cons _ _ _) (ih _ _ _ h.cons ?_)
        cases start with
        | none => exact ⟨h.bd, Nat.le_add_right _ _⟩
        | some s => exact ⟨hst.1, Nat.le_trans hst.2 (Nat.le_add_right _ _)⟩

theorem parseEscape_spec {pos : Nat} {rest : List CC} (h : Suf text pos rest) :
    EscOK text pos rest (parseEscape (blen text) pos rest) := by
  cases rest with
  | nil => exact .plain (Adv.refl _ _)
  | cons x r =>
    have h1 := h.cons
    show EscOK text pos (x :: r) (parseEscapeCons (blen text) pos x r)
    unfold parseEscapeCons
    -- the seven one-character escapes
    iterate 7 refine iteInduction (fun _ => .plain (Adv.cons _ _ _)) fun _ => ?_
    refine iteInduction (fun _ => ?_) fun _ => ?_
    · -- `\x`
      split
      · exact .plain (Adv.cons _ _ _)
      · exact .plain (Adv.cons2 _ _ _ _)
      · rename_i hh l r3
        have h3 : Suf text (pos + u8len x.c + u8len hh.c + u8len l.c) r3 := h1.cons.cons
        have a3 : Adv pos (x :: hh :: l :: r3) (pos + u8len x.c + u8len hh.c + u8len l.c) r3 :=
          (Adv.cons _ _ _).trans (Adv.cons2 _ _ _ _)
        split
        · rename_i hi lo e1 e2
          have := toDigit_lt e1
          have := toDigit_lt e2
          obtain ⟨ch, hch⟩ := charFromU32?_isSome_of_lt (n := hi * 16 + lo) (by omega)
          rw [hch]
          exact .plain a3
        · simp only [peekPos_eq h3]
          exact .oneErr a3 ⟨h.bd, h3.bd, a3.le⟩
    refine iteInduction (fun hxu => ?_) fun _ => ?_
    · -- `\u`
      split
      · exact .plain (Adv.cons _ _ _)
      · rename_i b r2
        have h2 : Suf text (pos + u8len x.c + u8len b.c) r2 := h1.cons
        have a2 := Adv.cons2 pos x b r2
        refine iteInduction (fun _ => ?_) fun _ => ?_
        · have spec := uDigits_spec (text := text) r2 (pos + u8len x.c + u8len b.c) none 0 h2 ⟨h2.bd, Nat.le_refl _⟩
          generalize uDigits r2 (pos + u8len x.c + u8len b.c) none 0 = res at spec
          cases res with
          | eof p => exact .plain (a2.trans spec)
          | badDigit at_ c p r' =>
            obtain ⟨s1, s2, rfl⟩ := spec
            exact .oneErr (a2.trans s1) ⟨s2, (h2.adv s1).bd, Nat.le_add_right _ _⟩
          | closed dEnd start v p r' =>
            obtain ⟨s1, s2, s3, s4, s5, s6⟩ := spec
            have hp' := h2.adv s1
            refine iteInduction (fun _ => .oneErr (a2.trans s1) ⟨s5, s2, s6⟩) fun _ => ?_
            split
            · simp only [peekPos_eq hp']
              exact ⟨a2.trans s1, errs_one ⟨s5, s2, s6⟩, aux_one ⟨h.bd, hp'.bd, (a2.trans s1).le⟩, rfl⟩
            · exact .plain (a2.trans s1)
        · rw [← hxu]
          exact .oneErr a2 ⟨h.bd, h1.bd, Nat.le_add_right _ _⟩
    · exact .oneErr (Adv.cons _ _ _) ⟨h.bd, h1.bd, Nat.le_add_right _ _⟩

/-! ## String literals -/

theorem strLoop_spec {index : Nat} (fuel pos : Nat) (rest : List CC) (parsed : List Char)
    (errs : List LexErr) (aux : List (Nat × Nat))
    (h : Suf text pos rest) (hi : Bd text index) (hlt : index < pos)
    (herrs : ∀ e ∈ errs, SpanOK text e.start e.stop) (haux : ∀ a ∈ aux, SpanOK text a.1 a.2)
    (hfuel : rest.length < fuel) :
    SubOK text index pos rest (strLoop text (blen text) index fuel pos rest parsed errs aux) ∧
    (strLoop text (blen text) index fuel pos rest parsed errs aux).fuelOut = false := by
  induction fuel generalizing pos rest parsed errs aux with
  | zero => exact absurd hfuel (Nat.not_lt_zero _)
  | succ fuel ih =>
    cases rest with
    | nil =>
      have hlt' : index < blen text := h.nil ▸ hlt
      rw [strLoop]
      exact ⟨.noTok (Adv.refl _ _) rfl
        (List.forall_mem_append.2 ⟨herrs, errs_one (walkBack_span hi (Nat.le_sub_one_of_lt hlt'))⟩) haux
        (decide_eq_false (Nat.ne_zero_of_lt hlt')), rfl⟩
    | cons x r =>
      have h1 := h.cons
      have a1 := Adv.cons pos x r
      have hlt1 : index < pos + u8len x.c := Nat.lt_add_right _ hlt
      have hfuel1 : r.length < fuel := Nat.lt_of_succ_lt_succ hfuel
      rw [strLoop]
      by_cases c1 : x.c = '\\'
      · rw [if_pos c1]
        have spec := parseEscape_spec h1
        generalize parseEscape (blen text) (pos + u8len x.c) r = e at spec
        have a2 := a1.trans spec.adv
        have herrs' := List.forall_mem_append.2 ⟨herrs, spec.errs⟩
        have haux' := List.forall_mem_append.2 ⟨haux, spec.aux⟩
        simp only []
        cases hres : e.res with
        | ok ch =>
          simp only [spec.bad, Bool.false_eq_true, ↓reduceIte]
          have := ih e.pos e.rest (ch :: parsed) _ _ (h.adv a2) (Nat.lt_of_lt_of_le hlt a2.le) herrs' haux'
            (Nat.lt_of_le_of_lt spec.adv.length_le hfuel1)
          exact ⟨SubOK.mono a2 this.1, this.2⟩
        | errSome => exact ⟨.noTok a2 rfl herrs' haux' spec.bad, rfl⟩
        | errNone =>
          exact ⟨.noTok a2 rfl (List.forall_mem_append.2 ⟨herrs', errs_one (.to_len hi)⟩) haux' spec.bad, rfl⟩
      · rw [if_neg c1]
        by_cases c2 : x.c = '"'
        · rw [if_pos c2, peekPos_eq h1]
          exact ⟨.oneTok a1 rfl (.of_suf hi h1 (Nat.le_of_lt hlt1)) (Nat.le_refl _) (Nat.le_refl _) herrs haux rfl, rfl⟩
        · rw [if_neg c2]
          by_cases c3 : x.bd = true
          · rw [if_pos c3]
            have := ih (pos + u8len x.c) r parsed _ aux h1 hlt1
              (List.forall_mem_append.2 ⟨herrs, errs_one (k := .unicodeTextDirInLiteral) (.of_suf h.bd h1 a1.le)⟩)
              haux hfuel1
            exact ⟨SubOK.mono a1 this.1, this.2⟩
          · rw [if_neg c3]
            have := ih (pos + u8len x.c) r (x.c :: parsed) errs aux h1 hlt1 herrs haux hfuel1
            exact ⟨SubOK.mono a1 this.1, this.2⟩

theorem lexString_spec {index fuel pos : Nat} {rest : List CC}
    (h : Suf text pos rest) (hi : Bd text index) (hlt : index < pos) (hfuel : rest.length < fuel) :
    SubOK text index pos rest (lexString text (blen text) index fuel pos rest) ∧
    (lexString text (blen text) index fuel pos rest).fuelOut = false :=
  strLoop_spec fuel pos rest [] [] [] h hi hlt (List.forall_mem_nil _) (List.forall_mem_nil _) hfuel

/-! ## Char literals -/

theorem charEscape_spec {index pos : Nat} {rest : List CC} (c : CC)
    (h : Suf text pos rest) (hi : Bd text index) :
    EscOK text pos rest (charEscape (blen text) index c pos rest) := by
  unfold charEscape
  split
  · have spec := parseEscape_spec h
    generalize parseEscape (blen text) pos rest = e at spec
    simp only []
    split
    · exact ⟨spec.adv, List.forall_mem_append.2 ⟨spec.errs, errs_one (.to_len hi)⟩, spec.aux, spec.bad⟩
    · exact spec
  · exact .plain (Adv.refl _ _)

theorem lexCharRecover_spec {index q spStop nextIndex : Nat} {rq : List CC} (parsed : Char)
    {errs : List LexErr} {aux : List (Nat × Nat)} {e2 : EscRes}
    (h : Suf text q rq) (he2 : EscOK text q rq e2) (hi : Bd text index)
    (hsp : SpanOK text index spStop) (hspq : spStop ≤ q) (hn : Bd text nextIndex) (hnq : nextIndex ≤ q)
    (herrs : ∀ e ∈ errs, SpanOK text e.start e.stop) (haux : ∀ a ∈ aux, SpanOK text a.1 a.2) :
    SubOK text index q rq (lexCharRecover (blen text) index parsed errs aux spStop nextIndex e2) := by
  have herrs' := List.forall_mem_append.2 ⟨herrs, he2.errs⟩
  have haux' : ∀ a ∈ (index, spStop) :: aux ++ e2.aux, SpanOK text a.1 a.2 :=
    List.forall_mem_append.2 ⟨List.forall_mem_cons.2 ⟨hsp, haux⟩, he2.aux⟩
  unfold lexCharRecover
  cases hres : e2.res with
  | errNone => exact .noTok he2.adv rfl herrs' haux' he2.bad
  | errSome => exact .noTok he2.adv rfl herrs' haux' he2.bad
  | ok ch2 =>
    simp only [he2.bad, Bool.false_eq_true, ↓reduceIte]
    have fq := findQuote_adv e2.rest e2.pos []
    generalize findQuote e2.rest e2.pos [] = res at fq
    obtain ⟨found, p5, r5, acc⟩ := res
    have a5 : Adv q rq p5 r5 := he2.adv.trans fq
    have hsuf5 := h.adv a5
    cases found with
    | false => exact .noTok a5 rfl (List.forall_mem_append.2 ⟨herrs', errs_one (.to_len hi)⟩) haux' rfl
    | true =>
      simp only [peekPos_eq hsuf5]
      exact .oneTok a5 rfl hsp (Nat.le_refl _) (Nat.le_trans hspq a5.le)
        (List.forall_mem_append.2 ⟨herrs', errs_one (.of_suf hn hsuf5 (Nat.le_trans hnq a5.le))⟩)
        (List.forall_mem_append.2 ⟨haux, he2.aux⟩) rfl

theorem lexCharSecond_spec {index q : Nat} {rq : List CC} {errs0 : List LexErr} {e1 : EscRes}
    (h : Suf text q rq) (he1 : EscOK text q rq e1) (hi : Bd text index) (hlt : index < q)
    (herrs : ∀ e ∈ errs0, SpanOK text e.start e.stop) :
    SubOK text index q rq (lexCharSecond (blen text) index errs0 e1) := by
  have hsuf := h.adv he1.adv
  have herrs' := List.forall_mem_append.2 ⟨herrs, he1.errs⟩
  unfold lexCharSecond
  cases hres : e1.res with
  | errNone => exact .noTok he1.adv rfl herrs' he1.aux he1.bad
  | errSome => exact .noTok he1.adv rfl herrs' he1.aux he1.bad
  | ok parsed =>
    simp only [he1.bad, Bool.false_eq_true, ↓reduceIte]
    have a1 := he1.adv
    generalize e1.rest = rr at hsuf a1
    cases rr with
    | nil => exact .noTok a1 rfl (List.forall_mem_append.2 ⟨herrs', errs_one (.to_len hi)⟩) he1.aux rfl
    | cons b r3 =>
      have hsuf3 := hsuf.cons
      have a3 : Adv q rq (e1.pos + u8len b.c) r3 := a1.trans (Adv.cons _ _ _)
      simp only [peekPos_eq hsuf3]
      have hsp : SpanOK text index (e1.pos + u8len b.c) := .of_suf hi hsuf3 (Nat.le_of_lt (Nat.lt_of_lt_of_le hlt a3.le))
      split
      · exact .oneTok a3 rfl hsp (Nat.le_refl _) (Nat.le_refl _) herrs' he1.aux rfl
      · exact SubOK.mono a3 (lexCharRecover_spec parsed hsuf3 (charEscape_spec b hsuf3 hi) hi hsp (Nat.le_refl _)
          hsuf.bd (Nat.le_add_right _ _) herrs' he1.aux)

theorem lexChar_spec {index pos : Nat} {rest : List CC}
    (h : Suf text pos rest) (hi : Bd text index) (hlt : index < pos) :
    SubOK text index pos rest (lexChar (blen text) index pos rest) := by
  unfold lexChar
  cases rest with
  | nil => exact .noTok (Adv.refl _ _) rfl (errs_one (.to_len hi)) (List.forall_mem_nil _) rfl
  | cons a r1 =>
    have h1 := h.cons
    refine SubOK.mono (Adv.cons _ _ _) (lexCharSecond_spec h1 (charEscape_spec a h1 hi) hi (Nat.lt_add_right _ hlt) ?_)
    split
    · exact errs_one ⟨h.bd, h1.bd, Nat.le_add_right _ _⟩
    · exact List.forall_mem_nil _

/-! ## Integer literals -/

theorem lexIntTail_spec {index pos : Nat} {rest : List CC} (value : Nat) {endOpt : Option Nat}
    (h : Suf text pos rest) (hi : Bd text index) (hle : index ≤ pos) (he : endOpt.getD (blen text) = pos) :
    SubOK text index pos rest (lexIntTail (blen text) index value endOpt pos rest) := by
  unfold lexIntTail
  have ts := takeSuffix_adv rest pos []
  generalize takeSuffix rest pos [] = res at ts
  obtain ⟨p2, r2, acc⟩ := res
  have hsuf2 := h.adv ts
  have hle2 : pos ≤ p2 := ts.le
  simp only [he, peekPos_eq hsuf2]
  -- the literal `[index, pos)` and its suffix `[pos, p2)`
  have hint : SpanOK text index pos := ⟨hi, h.bd, hle⟩
  have hsfx : SpanOK text pos p2 := ⟨h.bd, hsuf2.bd, hle2⟩
  split
  · exact .oneTok ts rfl hint (Nat.le_refl _) hle2 (List.forall_mem_nil _) (List.forall_mem_nil _) rfl
  · split
    · exact ⟨ts, List.forall_mem_cons.2 ⟨⟨hint, Nat.le_refl _, hle2⟩, List.forall_mem_singleton.2 ⟨hsfx, hle, Nat.le_refl _⟩⟩,
        by simp, List.forall_mem_nil _, List.forall_mem_nil _, rfl⟩
    · exact .oneTok ts rfl hint (Nat.le_refl _) hle2 (errs_one hsfx) (List.forall_mem_nil _) rfl

theorem lexDigitsThenTail_spec {index q pos radix v : Nat} {rq r : List CC}
    (hq : Suf text q rq) (a : Adv q rq pos r) (hi : Bd text index) (hle : index ≤ pos) :
    SubOK text index q rq
      (match parseDigits radix r pos v with
       | (v', endOpt, p3, r3) => lexIntTail (blen text) index v' endOpt p3 r3) := by
  obtain ⟨ps, pe⟩ := parseDigits_spec radix v (hq.adv a)
  exact SubOK.mono (a.trans ps) (lexIntTail_spec _ ((hq.adv a).adv ps) hi (Nat.le_trans hle ps.le) pe)

theorem lexDecimal_spec {index pos : Nat} {rest : List CC} (d : Nat)
    (h : Suf text pos rest) (hi : Bd text index) (hle : index ≤ pos) :
    SubOK text index pos rest (lexDecimal (blen text) index d pos rest) :=
  lexDigitsThenTail_spec h (Adv.refl _ _) hi hle

theorem lexPrefixedInt_spec {index pos : Nat} {l : CC} {r : List CC} (radix : Nat) (kind : ErrKind)
    (h : Suf text pos (l :: r)) (hi : Bd text index) (hle : index ≤ pos) :
    SubOK text index pos (l :: r) (lexPrefixedInt (blen text) index radix kind pos (l :: r)) := by
  unfold lexPrefixedInt
  simp only []
  cases r with
  | nil => exact .noTok (Adv.cons _ _ _) rfl (errs_one (.to_len hi)) (List.forall_mem_nil _) rfl
  | cons d r2 =>
    simp only []
    cases hd : toDigit d.c radix with
    | none =>
      exact .noTok (Adv.cons2 _ _ _ _) rfl (errs_one (.of_suf hi h.cons (Nat.le_trans hle (Nat.le_add_right _ _))))
        (List.forall_mem_nil _) rfl
    | some dv =>
      have a := Adv.cons2 pos l d r2
      exact lexDigitsThenTail_spec h a hi (Nat.le_trans hle a.le)

theorem lexInt_spec {index pos : Nat} {rest : List CC} (d : Nat)
    (h : Suf text pos rest) (hi : Bd text index) (hle : index ≤ pos) :
    SubOK text index pos rest (lexInt (blen text) index d pos rest) := by
  unfold lexInt
  refine iteInduction (fun _ => ?_) fun _ => lexDecimal_spec d h hi hle
  cases rest with
  | nil => exact lexIntTail_spec 0 h hi hle h.nil.symm
  | cons y r =>
    refine iteInduction (fun _ => lexPrefixedInt_spec 16 _ h hi hle) fun _ => ?_
    refine iteInduction (fun _ => lexPrefixedInt_spec 8 _ h hi hle) fun _ => ?_
    refine iteInduction (fun _ => lexPrefixedInt_spec 2 _ h hi hle) fun _ => ?_
    exact iteInduction (fun _ => lexDecimal_spec 0 h hi hle) fun _ => lexIntTail_spec 0 h hi hle rfl

end SwayVerif.Lexer
