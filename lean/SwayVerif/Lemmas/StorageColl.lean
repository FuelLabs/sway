import SwayVerif.Model.Storage
import SwayVerif.Lemmas.Storage
/-!
Lemmas for C28 (core Lean only): the storage collections of the std library, as programs over slots,
against lists, finite maps and byte strings.

A collection operation is a few `read_quads` / `write_quads` / `clear_quads` calls, so the lemmas here are
`read_after_write`, `write_frame`, `readQuads_congr` and `writeQuads_get_other` at the right keys. For a vector
the store is tied to a list by `VecRep` (length word plus `ElemsRep`, the element array); each operation takes a
store that represents `xs` to one that represents the result of the list operation (`vecPush_rep` …
`vecInsert_rep`), the two loops through specifications in terms of reads (`shiftDown_spec`, `shiftUp_spec`).
`vec_step` packages these as one step of a simulation between `stepSlot` and `stepAbs`; `vec_history` is its
induction over a history.
-/
namespace SwayVerif.Storage

/-! ## StorageMap -/

section
variable (H : List Nat → Nat)

def SlotsApart (k1 n1 k2 n2 : Nat) : Prop := k1 + n1 ≤ k2 ∨ k2 + n2 ≤ k1

/-- the side condition of an access at word offset 0 -/
theorem side0 {r : Bool} {sz : Nat} (hr : r = false → sz ≤ 32) : r = false → 0 % 4 * 8 + sz ≤ 32 := by
  intro h; have := hr h; omega

theorem mapInsert_get_other (st : Store) (fid : Nat) (kb v : List Nat) (r : Bool) (hr : r = false → v.length ≤ 32) (k' : Nat)
    (h : ¬ (mapSlot H fid kb ≤ k' ∧ k' < mapSlot H fid kb + (v.length + 31) / 32)) :
    (mapInsert H st fid kb v r).get k' = st.get k' := by
  unfold mapInsert
  apply writeQuads_get_other st _ 0 v r (side0 hr)
  simpa [span_zero] using h

theorem mapRemove_get_other (st : Store) (fid : Nat) (kb : List Nat) (sz : Nat) (r : Bool) (hr : r = false → sz ≤ 32) (k' : Nat)
    (h : ¬ (mapSlot H fid kb ≤ k' ∧ k' < mapSlot H fid kb + (sz + 31) / 32)) :
    (mapRemove H st fid kb sz r).1.get k' = st.get k' := by
  unfold mapRemove
  by_cases hz : sz = 0
  · simp [clearQuads, hz]
  · rw [clearQuads_eq _ _ 0 sz r (by omega) (side0 hr), clearSlots_get, if_neg]
    simpa [span_zero] using h

theorem mapGet_frame (st st' : Store) (fid : Nat) (kb : List Nat) (sz : Nat) (r : Bool) (hr : r = false → sz ≤ 32)
    (h : ∀ j, j < (sz + 31) / 32 → st'.get (mapSlot H fid kb + j) = st.get (mapSlot H fid kb + j)) :
    mapGet H st' fid kb sz r = mapGet H st fid kb sz r := by
  unfold mapGet
  apply readQuads_congr _ _ _ _ _ _ (side0 hr)
  intro i hi
  rw [span_zero] at hi
  exact h i hi

theorem mapGet_remove_same (st : Store) (fid : Nat) (kb : List Nat) (sz : Nat) (r : Bool) (hpos : 0 < sz)
    (hr : r = false → sz ≤ 32) :
    mapGet H (mapRemove H st fid kb sz r).1 fid kb sz r = none := by
  unfold mapGet mapRemove
  rw [clearQuads_eq _ _ 0 sz r hpos (side0 hr), readQuads_eq _ _ 0 sz r hpos (side0 hr),
    allSet_clearSlots _ _ _ (span_pos hpos)]
  rfl

theorem mapRemove_flag (st : Store) (fid : Nat) (kb : List Nat) (sz : Nat) (r : Bool) (hpos : 0 < sz)
    (hr : r = false → sz ≤ 32) :
    (mapRemove H st fid kb sz r).2 = (mapGet H st fid kb sz r).isSome := by
  unfold mapGet mapRemove
  rw [clearQuads_eq _ _ 0 sz r hpos (side0 hr), readQuads_eq _ _ 0 sz r hpos (side0 hr)]
  cases allSet st (mapSlot H fid kb + 0 / 4) (span 0 sz) <;> rfl

end

/-! ## StorageVec: element accesses

Element `i` of an array of `w`-word elements at `key` is the access `(key, i * w, 8 * w)`. -/

theorem offsetCalc_words (w i : Nat) : offsetCalc (8 * w) i = i * w := by
  have : align8 (8 * w) = 8 * w := align8_of_mod (by omega)
  unfold offsetCalc
  rw [this, show i * (8 * w) = 8 * (i * w) by rw [Nat.mul_left_comm], Nat.mul_div_cancel_left _ (by omega)]

theorem elemSide {w : Nat} {r : Bool} (hr : r = false → w = 1) (m : Nat) : r = false → m % 4 * 8 + 8 * w ≤ 32 := by
  intro h; have := hr h; subst this; omega

theorem mul_succ_le {i j w : Nat} (h : i < j) : i * w + w ≤ j * w := by
  have : (i + 1) * w ≤ j * w := Nat.mul_le_mul_right w h
  rwa [Nat.add_mul, Nat.one_mul] at this

/-- the slots an element access spans lie inside the first `ceil(W/4)` element slots -/
theorem elem_slots_in (w m W i : Nat) (hm : m + w ≤ W) (hi : i < span m (8 * w)) :
    m / 4 + i < (8 * W + 31) / 32 := by
  simp only [span] at hi; omega

theorem readElem_writeElem_self (st : Store) (key w i : Nat) (v : List Nat) (r : Bool) (hw : 0 < w)
    (hr : r = false → w = 1) (hv : v.length = 8 * w) :
    readQuads (writeQuads st key (i * w) v r) key (i * w) (8 * w) r = some v := by
  rw [← hv]
  exact read_after_write st key (i * w) v r (by omega) (by rw [hv]; exact elemSide hr _)

/-- Stated for readable elements only: a write can make an unset slot present, so an unreadable element may
become readable. -/
theorem readElem_writeElem_ne (st : Store) (key w : Nat) (v : List Nat) (r : Bool) (hw : 0 < w)
    (hr : r = false → w = 1) (hv : v.length = 8 * w) {i j : Nat} (hij : i ≠ j) {x : List Nat}
    (h : readQuads st key (j * w) (8 * w) r = some x) :
    readQuads (writeQuads st key (i * w) v r) key (j * w) (8 * w) r = some x := by
  apply write_frame _ _ _ v r (by omega) (by rw [hv]; exact elemSide hr _) _ _ r (by omega) (elemSide hr _) _ _ h
  rw [hv]
  rcases Nat.lt_or_gt_of_ne hij with hlt | hgt
  · right; have := mul_succ_le (w := w) hlt; omega
  · left; have := mul_succ_le (w := w) hgt; omega

theorem writeElem_get_other (st : Store) (key w m W : Nat) (v : List Nat) (r : Bool)
    (hr : r = false → w = 1) (hv : v.length = 8 * w) (hm : m + w ≤ W) (k' : Nat)
    (h : ¬ (key ≤ k' ∧ k' < key + (8 * W + 31) / 32)) : (writeQuads st key m v r).get k' = st.get k' := by
  apply writeQuads_get_other st _ m v r (by rw [hv]; exact elemSide hr m)
  rw [hv]
  intro hc
  have := elem_slots_in w m W (k' - key - m / 4) hm (by omega)
  omega

/-! ### the loops of `remove` and `insert`

Both are stated for a plain key: the elements the loop reads are readable; afterwards every
element of the window is the old neighbour, readable elements outside it are as before, and only
element slots changed. -/

theorem shiftDown_spec (key w : Nat) (r : Bool) (hw : 0 < w) (hr : r = false → w = 1) :
    ∀ (fuel c : Nat) (st : Store),
      (∀ p, c < p → p ≤ c + fuel → (readQuads st key (p * w) (8 * w) r).isSome = true) →
      ∃ st', shiftDown st key (8 * w) r fuel (c + 1) = some st' ∧
        (∀ p, c ≤ p → p < c + fuel →
          readQuads st' key (p * w) (8 * w) r = readQuads st key ((p + 1) * w) (8 * w) r) ∧
        (∀ p x, ¬ (c ≤ p ∧ p < c + fuel) →
          readQuads st key (p * w) (8 * w) r = some x → readQuads st' key (p * w) (8 * w) r = some x) ∧
        (∀ W k', (c + fuel + 1) * w ≤ W → ¬ (key ≤ k' ∧ k' < key + (8 * W + 31) / 32) → st'.get k' = st.get k')
  | 0, _, st, _ => ⟨st, rfl, fun _ _ _ => by omega, fun _ _ _ h => h, fun _ _ _ _ => rfl⟩
  | fuel + 1, c, st, hwin => by
    obtain ⟨x, hx⟩ := Option.isSome_iff_exists.1 (hwin (c + 1) (by omega) (by omega))
    have hxl := readQuads_length hx
    have keep : ∀ {p y}, p ≠ c → readQuads st key (p * w) (8 * w) r = some y →
        readQuads (writeQuads st key (c * w) x r) key (p * w) (8 * w) r = some y :=
      fun hp hy => readElem_writeElem_ne st key w x r hw hr hxl (Ne.symm hp) hy
    obtain ⟨st', e1, e2, e3, e4⟩ := shiftDown_spec key w r hw hr fuel (c + 1) (writeQuads st key (c * w) x r)
      (fun p h1 h2 => by
        obtain ⟨y, hy⟩ := Option.isSome_iff_exists.1 (hwin p (by omega) (by omega))
        rw [keep (by omega) hy]; rfl)
    refine ⟨st', by simp only [shiftDown, offsetCalc_words, hx, Nat.add_sub_cancel, e1], ?_, ?_, ?_⟩
    · intro p h1 h2
      by_cases hp : p = c
      · rw [hp, hx]
        exact e3 _ _ (by omega) (readElem_writeElem_self st key w _ x r hw hr hxl)
      · obtain ⟨y, hy⟩ := Option.isSome_iff_exists.1 (hwin (p + 1) (by omega) (by omega))
        rw [e2 p (by omega) (by omega), hy]
        exact keep (by omega) hy
    · intro p y hp hy
      exact e3 p y (by omega) (keep (by omega) hy)
    · intro W k' hW hk
      rw [e4 W k' (by rwa [Nat.add_right_comm c 1 fuel, Nat.add_assoc]) hk]
      exact writeElem_get_other st key w _ W x r hr hxl
        (Nat.le_trans (mul_succ_le (by omega : c < c + (fuel + 1) + 1)) hW) k' hk

/-- `count` is `lo + fuel - 1`, said without subtraction; it does not matter when `fuel = 0`. -/
theorem shiftUp_spec (key w : Nat) (r : Bool) (hw : 0 < w) (hr : r = false → w = 1) :
    ∀ (fuel lo count : Nat) (st : Store), (fuel ≠ 0 → count + 1 = lo + fuel) →
      (∀ p, lo ≤ p → p < lo + fuel → (readQuads st key (p * w) (8 * w) r).isSome = true) →
      ∃ st', shiftUp st key (8 * w) r fuel count = some st' ∧
        (∀ p, lo < p → p ≤ lo + fuel →
          readQuads st' key (p * w) (8 * w) r = readQuads st key ((p - 1) * w) (8 * w) r) ∧
        (∀ p x, ¬ (lo < p ∧ p ≤ lo + fuel) →
          readQuads st key (p * w) (8 * w) r = some x → readQuads st' key (p * w) (8 * w) r = some x) ∧
        (∀ W k', (lo + fuel + 1) * w ≤ W → ¬ (key ≤ k' ∧ k' < key + (8 * W + 31) / 32) → st'.get k' = st.get k')
  | 0, _, _, st, _, _ => ⟨st, rfl, fun _ _ _ => by omega, fun _ _ _ h => h, fun _ _ _ _ => rfl⟩
  | fuel + 1, lo, count, st, hc, hwin => by
    have hc : count = lo + fuel := by have := hc (by omega); omega
    subst hc
    obtain ⟨x, hx⟩ := Option.isSome_iff_exists.1 (hwin (lo + fuel) (by omega) (by omega))
    have hxl := readQuads_length hx
    have keep : ∀ {p y}, p ≠ lo + fuel + 1 → readQuads st key (p * w) (8 * w) r = some y →
        readQuads (writeQuads st key ((lo + fuel + 1) * w) x r) key (p * w) (8 * w) r = some y :=
      fun hp hy => readElem_writeElem_ne st key w x r hw hr hxl (Ne.symm hp) hy
    obtain ⟨st', e1, e2, e3, e4⟩ := shiftUp_spec key w r hw hr fuel lo (lo + fuel - 1)
      (writeQuads st key ((lo + fuel + 1) * w) x r) (by omega) (fun p h1 h2 => by
        obtain ⟨y, hy⟩ := Option.isSome_iff_exists.1 (hwin p h1 (by omega))
        rw [keep (by omega) hy]; rfl)
    refine ⟨st', by simp only [shiftUp, offsetCalc_words, hx, e1], ?_, ?_, ?_⟩
    · intro p h1 h2
      by_cases hp : p = lo + fuel + 1
      · rw [hp, Nat.add_sub_cancel, hx]
        exact e3 _ _ (by omega) (readElem_writeElem_self st key w _ x r hw hr hxl)
      · obtain ⟨y, hy⟩ := Option.isSome_iff_exists.1 (hwin (p - 1) (by omega) (by omega))
        rw [e2 p h1 (by omega), hy]
        exact keep (by omega) hy
    · intro p y hp hy
      exact e3 p y (by omega) (keep (by omega) hy)
    · intro W k' hW hk
      rw [e4 W k' (Nat.le_trans (Nat.mul_le_mul_right w (by omega)) hW) hk]
      exact writeElem_get_other st key w _ W x r hr hxl
        (Nat.le_trans (mul_succ_le (by omega : lo + fuel + 1 < lo + (fuel + 1) + 1)) hW) k' hk

/-! ## StorageVec: representation relations -/

section
variable (H : List Nat → Nat)

structure VecRep (st : Store) (fid w : Nat) (r : Bool) (xs : List (List Nat)) : Prop where
  len : readLen st fid = xs.length
  elems : ∀ i (h : i < xs.length), readQuads st (vecKey H fid) (i * w) (8 * w) r = some xs[i]

/-- Hash hypothesis for one vector: the length slot `fid` is not one of the first `ceil(W/4)`
element slots (`W` = words of element data in play). -/
def VecSep (fid W : Nat) : Prop := ∀ j, j < (8 * W + 31) / 32 → vecKey H fid + j ≠ fid

/-- the element array without the length (what the loops of `remove` / `insert` work on) -/
def ElemsRep (st : Store) (fid w : Nat) (r : Bool) (ys : List (List Nat)) : Prop :=
  ∀ i (h : i < ys.length), readQuads st (vecKey H fid) (i * w) (8 * w) r = some ys[i]

def SameOutside (fid W : Nat) (st st' : Store) : Prop :=
  ∀ k', k' ≠ fid → ¬ (vecKey H fid ≤ k' ∧ k' < vecKey H fid + (8 * W + 31) / 32) → st'.get k' = st.get k'

theorem vecRep_nil {st : Store} {fid w : Nat} {r : Bool} (h : readLen st fid = 0) : VecRep H st fid w r [] :=
  ⟨h, fun _ hi => (Nat.not_lt_zero _ hi).elim⟩

theorem slots_mono {W W' : Nat} (h : W ≤ W') : (8 * W + 31) / 32 ≤ (8 * W' + 31) / 32 :=
  Nat.div_le_div_right (by omega)

theorem VecSep_mono {fid W W' : Nat} (h : VecSep H fid W) (hle : W' ≤ W) : VecSep H fid W' :=
  fun j hj => h j (Nat.lt_of_lt_of_le hj (slots_mono hle))

theorem SameOutside.refl (fid W : Nat) (st : Store) : SameOutside H fid W st st := fun _ _ _ => rfl

theorem SameOutside.trans {fid W : Nat} {a b c : Store} (h1 : SameOutside H fid W a b) (h2 : SameOutside H fid W b c) :
    SameOutside H fid W a c := fun k' hk hn => (h2 k' hk hn).trans (h1 k' hk hn)

theorem SameOutside.mono {fid W W' : Nat} {a b : Store} (h : SameOutside H fid W a b) (hle : W ≤ W') :
    SameOutside H fid W' a b := fun k' hk hn =>
  h k' hk fun hc => hn ⟨hc.1, Nat.lt_of_lt_of_le hc.2 (Nat.add_le_add_left (slots_mono hle) _)⟩

theorem sameOutside_writeElem (st : Store) (fid w m W : Nat) (v : List Nat) (r : Bool)
    (hr : r = false → w = 1) (hv : v.length = 8 * w) (hm : m + w ≤ W) :
    SameOutside H fid W st (writeQuads st (vecKey H fid) m v r) :=
  fun k' _ hn => writeElem_get_other st _ w m W v r hr hv hm k' hn

theorem sameOutside_writeLen (st : Store) (fid W n : Nat) : SameOutside H fid W st (writeLen st fid n) :=
  fun k' hk _ => writeLen_get_other st fid n k' hk

theorem readLen_writeElem (st : Store) (fid w m W : Nat) (v : List Nat) (r : Bool) (hr : r = false → w = 1)
    (hv : v.length = 8 * w) (hsep : VecSep H fid W) (hm : m + w ≤ W) :
    readLen (writeQuads st (vecKey H fid) m v r) fid = readLen st fid :=
  readLen_congr _ _ _ (writeElem_get_other st _ w m W v r hr hv hm fid
    fun hc => hsep (fid - vecKey H fid) (by omega) (by omega))

theorem ElemsRep.length {st : Store} {fid w : Nat} {r : Bool} {ys : List (List Nat)}
    (h : ElemsRep H st fid w r ys) (i : Nat) (hi : i < ys.length) : ys[i].length = 8 * w :=
  readQuads_length (h i hi)

theorem ElemsRep.congr {st st' : Store} {fid w : Nat} {r : Bool} {ys : List (List Nat)}
    (hr : r = false → w = 1) (h : ElemsRep H st fid w r ys)
    (he : ∀ j, j < (8 * (ys.length * w) + 31) / 32 → st'.get (vecKey H fid + j) = st.get (vecKey H fid + j)) :
    ElemsRep H st' fid w r ys := by
  intro i hi
  rw [← h i hi]
  apply readQuads_congr _ _ _ _ _ _ (elemSide hr _)
  intro j hj
  rw [Nat.add_assoc]
  exact he _ (elem_slots_in w (i * w) (ys.length * w) j (mul_succ_le hi) hj)

theorem elems_writeLen {st : Store} {fid w : Nat} {r : Bool} {ys : List (List Nat)} (n : Nat)
    (hr : r = false → w = 1) (hsep : VecSep H fid (ys.length * w)) (h : ElemsRep H st fid w r ys) :
    ElemsRep H (writeLen st fid n) fid w r ys :=
  h.congr H hr fun j hj => writeLen_get_other st fid n _ (hsep j hj)

theorem elems_set {st : Store} {fid w : Nat} {r : Bool} {ys : List (List Nat)} (i : Nat) (v : List Nat)
    (hw : 0 < w) (hr : r = false → w = 1) (hv : v.length = 8 * w) (h : ElemsRep H st fid w r ys) :
    ElemsRep H (writeQuads st (vecKey H fid) (i * w) v r) fid w r (ys.set i v) := by
  intro j hj
  rw [List.getElem_set]
  split
  · next hij => subst hij; exact readElem_writeElem_self st _ w i v r hw hr hv
  · next hij => exact readElem_writeElem_ne st _ w v r hw hr hv hij (h j (by simpa using hj))

theorem elems_append {st : Store} {fid w : Nat} {r : Bool} {ys : List (List Nat)} (v : List Nat)
    (hw : 0 < w) (hr : r = false → w = 1) (hv : v.length = 8 * w) (h : ElemsRep H st fid w r ys) :
    ElemsRep H (writeQuads st (vecKey H fid) (ys.length * w) v r) fid w r (ys ++ [v]) := by
  intro i hi
  rw [List.getElem_append]
  split
  · next hlt => exact readElem_writeElem_ne st _ w v r hw hr hv (by omega) (h i hlt)
  · next hge =>
    have hie : i = ys.length := by simp at hi; omega
    subst hie
    simpa using readElem_writeElem_self st _ w ys.length v r hw hr hv

theorem elems_take {st : Store} {fid w : Nat} {r : Bool} {ys : List (List Nat)} (n : Nat)
    (h : ElemsRep H st fid w r ys) : ElemsRep H st fid w r (ys.take n) := by
  intro i hi
  have hi' : i < ys.length := by simp at hi; omega
  rw [h i hi']; simp

end

/-! ## StorageVec: the operations on `VecRep` -/

section
variable (H : List Nat → Nat)

theorem vecGet_rep {st : Store} {fid w : Nat} {r : Bool} {xs : List (List Nat)}
    (h : VecRep H st fid w r xs) (i : Nat) : vecGet H st fid (8 * w) r i = some xs[i]? := by
  unfold vecGet
  simp only [h.len, offsetCalc_words]
  by_cases hi : xs.length ≤ i
  · simp [hi]
  · have hi' : i < xs.length := by omega
    simp [hi, h.elems i hi', List.getElem?_eq_getElem hi']

theorem vecPush_rep {st : Store} {fid w : Nat} {r : Bool} {xs : List (List Nat)} (v : List Nat)
    (hw : 0 < w) (hr : r = false → w = 1) (hv : v.length = 8 * w) (hL : xs.length + 1 < 2 ^ 64)
    (hsep : VecSep H fid ((xs.length + 1) * w)) (h : VecRep H st fid w r xs) :
    VecRep H (vecPush H st fid (8 * w) r v) fid w r (xs ++ [v]) := by
  unfold vecPush
  simp only [h.len, offsetCalc_words]
  exact ⟨by rw [readLen_writeLen _ _ _ hL, List.length_append]; rfl,
    elems_writeLen H _ hr (by rw [List.length_append]; exact hsep) (elems_append H v hw hr hv h.elems)⟩

theorem vecSet_rep {st : Store} {fid w : Nat} {r : Bool} {xs : List (List Nat)} (i : Nat) (v : List Nat)
    (hw : 0 < w) (hr : r = false → w = 1) (hv : v.length = 8 * w)
    (hsep : VecSep H fid (xs.length * w)) (h : VecRep H st fid w r xs) (hi : i < xs.length) :
    ∃ st', vecSet H st fid (8 * w) r i v = some st' ∧ VecRep H st' fid w r (xs.set i v) := by
  unfold vecSet
  simp only [h.len, hi, if_true, offsetCalc_words]
  refine ⟨_, rfl, ⟨?_, elems_set H i v hw hr hv h.elems⟩⟩
  rw [readLen_writeElem H st fid w (i * w) _ v r hr hv hsep (mul_succ_le hi), h.len, List.length_set]

theorem vecSet_oob {st : Store} {fid w : Nat} {r : Bool} {xs : List (List Nat)} (i : Nat) (v : List Nat)
    (h : VecRep H st fid w r xs) (hi : ¬ i < xs.length) : vecSet H st fid (8 * w) r i v = none := by
  unfold vecSet; simp [h.len, hi]

theorem vecPop_rep {st : Store} {fid w : Nat} {r : Bool} {xs : List (List Nat)}
    (hr : r = false → w = 1) (hL : xs.length < 2 ^ 64)
    (hsep : VecSep H fid (xs.length * w)) (h : VecRep H st fid w r xs) :
    (vecPop H st fid (8 * w) r).2 = xs.getLast? ∧ VecRep H (vecPop H st fid (8 * w) r).1 fid w r xs.dropLast := by
  unfold vecPop
  simp only [h.len, offsetCalc_words]
  by_cases h0 : xs.length = 0
  · have : xs = [] := List.eq_nil_of_length_eq_zero h0
    subst this
    exact ⟨rfl, h⟩
  · simp only [h0, if_false]
    have hlast : xs.length - 1 < xs.length := by omega
    have he := elems_writeLen H (xs.length - 1) hr hsep h.elems
    refine ⟨?_, ⟨?_, ?_⟩⟩
    · rw [he _ hlast, List.getLast?_eq_getElem?, List.getElem?_eq_getElem hlast]
    · rw [readLen_writeLen _ _ _ (by omega), List.length_dropLast]
    · rw [List.dropLast_eq_take]
      exact elems_take H _ he

theorem vecClear_rep (st : Store) (fid w : Nat) (r : Bool) : VecRep H (vecClear st fid).1 fid w r [] :=
  vecRep_nil H (readLen_clearLen st fid)

theorem vecRemove_rep {st : Store} {fid w : Nat} {r : Bool} {xs : List (List Nat)} (i : Nat)
    (hw : 0 < w) (hr : r = false → w = 1) (hL : xs.length < 2 ^ 64)
    (hsep : VecSep H fid (xs.length * w)) (h : VecRep H st fid w r xs) (hi : i < xs.length) :
    ∃ st', vecRemove H st fid (8 * w) r i = some (st', xs[i]) ∧ VecRep H st' fid w r (xs.eraseIdx i) ∧
      SameOutside H fid (xs.length * w) st st' := by
  obtain ⟨st1, e1, e2, e3, e4⟩ := shiftDown_spec (vecKey H fid) w r hw hr (xs.length - (i + 1)) i st
    (fun p _ hp => by rw [h.elems p (by omega)]; rfl)
  have hW : (i + (xs.length - (i + 1)) + 1) * w ≤ xs.length * w := Nat.mul_le_mul_right w (by omega)
  have hlen : (xs.eraseIdx i).length = xs.length - 1 := List.length_eraseIdx_of_lt hi
  refine ⟨writeLen st1 fid (xs.length - 1), ?_, ⟨?_, ?_⟩, ?_⟩
  · unfold vecRemove
    simp only [h.len, hi, not_true_eq_false, if_false, offsetCalc_words, h.elems i hi, e1]
  · rw [readLen_writeLen _ _ _ (by omega), hlen]
  · apply elems_writeLen H _ hr (VecSep_mono H hsep (Nat.mul_le_mul_right w (by omega)))
    intro p hp
    rw [List.getElem_eraseIdx]
    split
    · exact e3 p _ (by omega) (h.elems p (by omega))
    · rw [e2 p (by omega) (by omega)]
      exact h.elems (p + 1) (by omega)
  · intro k' hk hn
    rw [writeLen_get_other _ _ _ _ hk]
    exact e4 _ k' hW hn

theorem vecRemove_oob {st : Store} {fid w : Nat} {r : Bool} {xs : List (List Nat)} (i : Nat)
    (h : VecRep H st fid w r xs) (hi : ¬ i < xs.length) : vecRemove H st fid (8 * w) r i = none := by
  unfold vecRemove; simp [h.len, hi]

theorem vecSwap_rep {st : Store} {fid w : Nat} {r : Bool} {xs : List (List Nat)} (i j : Nat)
    (hw : 0 < w) (hr : r = false → w = 1)
    (hsep : VecSep H fid (xs.length * w)) (h : VecRep H st fid w r xs) (hi : i < xs.length) (hj : j < xs.length) :
    ∃ st', vecSwap H st fid (8 * w) r i j = some st' ∧ VecRep H st' fid w r (swapList xs i j) ∧
      SameOutside H fid (xs.length * w) st st' := by
  have hsw : swapList xs i j = (xs.set i xs[j]).set j xs[i] := by
    simp only [swapList, List.getElem?_eq_getElem hi, List.getElem?_eq_getElem hj]
  unfold vecSwap
  simp only [h.len, hi, hj, and_self, not_true_eq_false, if_false, offsetCalc_words]
  by_cases hij : i = j
  · subst hij
    refine ⟨st, by simp, ?_, SameOutside.refl H _ _ _⟩
    rw [hsw, List.set_set, List.set_getElem_self]
    exact h
  · simp only [hij, if_false, h.elems i hi, h.elems j hj]
    have hli := ElemsRep.length H h.elems i hi
    have hlj := ElemsRep.length H h.elems j hj
    rw [hsw]
    refine ⟨_, rfl, ⟨?_, elems_set H j xs[i] hw hr hli (elems_set H i xs[j] hw hr hlj h.elems)⟩, ?_⟩
    · rw [readLen_writeElem H _ fid w (j * w) _ _ r hr hli hsep (mul_succ_le hj),
        readLen_writeElem H _ fid w (i * w) _ _ r hr hlj hsep (mul_succ_le hi), h.len, List.length_set, List.length_set]
    · exact SameOutside.trans H (sameOutside_writeElem H st fid w _ _ _ r hr hlj (mul_succ_le hi))
        (sameOutside_writeElem H _ fid w _ _ _ r hr hli (mul_succ_le hj))

theorem vecSwap_oob {st : Store} {fid w : Nat} {r : Bool} {xs : List (List Nat)} (i j : Nat)
    (h : VecRep H st fid w r xs) (hi : ¬ (i < xs.length ∧ j < xs.length)) : vecSwap H st fid (8 * w) r i j = none := by
  unfold vecSwap; simp only [h.len, hi, not_false_eq_true, if_true]

theorem vecSwapRemove_rep {st : Store} {fid w : Nat} {r : Bool} {xs : List (List Nat)} (i : Nat)
    (hw : 0 < w) (hr : r = false → w = 1) (hL : xs.length < 2 ^ 64)
    (hsep : VecSep H fid (xs.length * w)) (h : VecRep H st fid w r xs) (hi : i < xs.length) :
    ∃ st' l, xs.getLast? = some l ∧ vecSwapRemove H st fid (8 * w) r i = some (st', xs[i]) ∧
      VecRep H st' fid w r ((xs.set i l).dropLast) ∧ SameOutside H fid (xs.length * w) st st' := by
  have hlast : xs.length - 1 < xs.length := by omega
  have hll := ElemsRep.length H h.elems _ hlast
  refine ⟨writeLen (writeQuads st (vecKey H fid) (i * w) xs[xs.length - 1] r) fid (xs.length - 1),
    xs[xs.length - 1], ?_, ?_, ?_, ?_⟩
  · rw [List.getLast?_eq_getElem?, List.getElem?_eq_getElem hlast]
  · unfold vecSwapRemove
    simp only [h.len, hi, not_true_eq_false, if_false, offsetCalc_words, h.elems i hi, h.elems _ hlast]
  · constructor
    · rw [readLen_writeLen _ _ _ (by omega)]; simp
    · rw [List.dropLast_eq_take]
      apply elems_take
      apply elems_writeLen H _ hr (by simpa using hsep)
      exact elems_set H i _ hw hr hll h.elems
  · exact SameOutside.trans H (sameOutside_writeElem H st fid w _ _ _ r hr hll (mul_succ_le hi))
      (sameOutside_writeLen H _ fid _ _)

theorem vecSwapRemove_oob {st : Store} {fid w : Nat} {r : Bool} {xs : List (List Nat)} (i : Nat)
    (h : VecRep H st fid w r xs) (hi : ¬ i < xs.length) : vecSwapRemove H st fid (8 * w) r i = none := by
  unfold vecSwapRemove; simp [h.len, hi]

theorem getElem?_take_cons_drop (xs : List (List Nat)) (i : Nat) (v : List Nat) (hi : i ≤ xs.length) (p : Nat) :
    (xs.take i ++ v :: xs.drop i)[p]? = if p < i then xs[p]? else if p = i then some v else xs[p - 1]? := by
  rw [List.getElem?_append, List.length_take, Nat.min_eq_left hi]
  split
  · next h => rw [List.getElem?_take_of_lt h]
  · split
    · next he => rw [he, Nat.sub_self]; rfl
    · obtain ⟨q, hq⟩ : ∃ q, p - i = q + 1 := ⟨p - i - 1, by omega⟩
      rw [hq, List.getElem?_cons_succ, List.getElem?_drop]
      congr 1; omega

theorem vecInsert_rep {st : Store} {fid w : Nat} {r : Bool} {xs : List (List Nat)} (i : Nat) (v : List Nat)
    (hw : 0 < w) (hr : r = false → w = 1) (hv : v.length = 8 * w) (hL : xs.length + 1 < 2 ^ 64)
    (hsep : VecSep H fid ((xs.length + 1) * w)) (h : VecRep H st fid w r xs) (hi : i ≤ xs.length) :
    ∃ st', vecInsert H st fid (8 * w) r i v = some st' ∧ VecRep H st' fid w r (xs.take i ++ v :: xs.drop i) ∧
      SameOutside H fid ((xs.length + 1) * w) st st' := by
  -- for `i = len` the loop runs zero times, which is what the model's special case computes
  obtain ⟨st1, e1, e2, e3, e4⟩ := shiftUp_spec (vecKey H fid) w r hw hr (xs.length - i) i (xs.length - 1) st
    (by omega) (fun p _ hp => by rw [h.elems p (by omega)]; rfl)
  have hlen : (xs.take i ++ v :: xs.drop i).length = xs.length + 1 := by
    rw [List.length_append, List.length_cons, List.length_take, List.length_drop, Nat.min_eq_left hi]; omega
  refine ⟨writeLen (writeQuads st1 (vecKey H fid) (i * w) v r) fid (xs.length + 1), ?_, ⟨?_, ?_⟩, ?_⟩
  · unfold vecInsert
    simp only [h.len, hi, not_true_eq_false, if_false, offsetCalc_words]
    split
    · next hie =>
      rw [hie, Nat.sub_self] at e1
      cases e1; rfl
    · rw [e1]
  · rw [readLen_writeLen _ _ _ hL, hlen]
  · apply elems_writeLen H _ hr (by rw [hlen]; exact hsep)
    intro p hp
    rw [← List.getElem?_eq_getElem hp, getElem?_take_cons_drop xs i v hi]
    rw [hlen] at hp
    split
    · next h1 =>
      rw [List.getElem?_eq_getElem (by omega)]
      exact readElem_writeElem_ne st1 _ w v r hw hr hv (by omega) (e3 p _ (by omega) (h.elems p (by omega)))
    · split
      · next h2 => subst h2; exact readElem_writeElem_self st1 _ w p v r hw hr hv
      · next h1 h2 =>
        rw [List.getElem?_eq_getElem (by omega)]
        apply readElem_writeElem_ne st1 _ w v r hw hr hv (Ne.symm h2)
        rw [e2 p (by omega) (by omega)]
        exact h.elems (p - 1) (by omega)
  · intro k' hk hn
    rw [writeLen_get_other _ _ _ _ hk,
      writeElem_get_other st1 _ w _ _ v r hr hv (mul_succ_le (by omega : i < xs.length + 1)) k' hn]
    exact e4 _ k' (Nat.mul_le_mul_right w (by omega)) hn

theorem vecInsert_oob {st : Store} {fid w : Nat} {r : Bool} {xs : List (List Nat)} (i : Nat) (v : List Nat)
    (h : VecRep H st fid w r xs) (hi : ¬ i ≤ xs.length) : vecInsert H st fid (8 * w) r i v = none := by
  unfold vecInsert; simp [h.len, hi]

end

/-! ### footprints of `push`, `set`, `pop`, `clear`

These hold of any store, whatever it represents; `remove`, `insert`, `swap` and `swap_remove` can revert on an
unreadable element, and their `_rep` lemmas give the footprint together with the result. -/

section
variable (H : List Nat → Nat)

theorem vecPush_outside (st : Store) (fid w len : Nat) (r : Bool) (v : List Nat) (hr : r = false → w = 1)
    (hv : v.length = 8 * w) (hlen : readLen st fid = len) :
    SameOutside H fid ((len + 1) * w) st (vecPush H st fid (8 * w) r v) := by
  unfold vecPush
  simp only [hlen, offsetCalc_words]
  exact SameOutside.trans H
    (sameOutside_writeElem H st fid w _ _ _ r hr hv (by rw [Nat.add_mul, Nat.one_mul]; omega))
    (sameOutside_writeLen H _ fid _ _)

theorem vecSet_outside (st st' : Store) (fid w len i : Nat) (r : Bool) (v : List Nat) (hr : r = false → w = 1)
    (hv : v.length = 8 * w) (hlen : readLen st fid = len) (h : vecSet H st fid (8 * w) r i v = some st') :
    SameOutside H fid (len * w) st st' := by
  unfold vecSet at h
  simp only [hlen, offsetCalc_words] at h
  split at h
  · next hi =>
    cases h
    exact sameOutside_writeElem H st fid w _ _ _ r hr hv (mul_succ_le hi)
  · cases h

theorem vecPop_outside (st : Store) (fid sz W : Nat) (r : Bool) :
    SameOutside H fid W st (vecPop H st fid sz r).1 := by
  unfold vecPop
  by_cases h0 : readLen st fid = 0
  · simp only [h0, if_true]; exact SameOutside.refl H _ _ _
  · simp only [h0, if_false]; exact sameOutside_writeLen H st fid _ _

theorem vecClear_outside (st : Store) (fid W : Nat) : SameOutside H fid W st (vecClear st fid).1 := by
  intro k' hk _
  rw [vecClear, clearLen_get, if_neg hk]

end

/-! ## StorageBytes / StorageString -/

section
variable (H : List Nat → Nat)

/-- Hash hypothesis for a slice of `len` bytes: the length slot is not one of its data slots. -/
def SliceSep (fid len : Nat) : Prop := ∀ j, j < (len + 31) / 32 → H (keyBytes fid) + j ≠ fid

theorem sliceWrite_get_other (st : Store) (fid : Nat) (bs : List Nat) (k' : Nat) (h1 : k' ≠ fid)
    (h2 : ¬ (H (keyBytes fid) ≤ k' ∧ k' < H (keyBytes fid) + (bs.length + 31) / 32)) :
    (sliceWrite H st fid bs).get k' = st.get k' := by
  unfold sliceWrite
  rw [writeLen_get_other _ _ _ _ h1, storeQuad_get, if_neg h2]

theorem sliceLen_write (st : Store) (fid : Nat) (bs : List Nat) (hL : bs.length < 2 ^ 64) :
    sliceLen (sliceWrite H st fid bs) fid = bs.length := by
  unfold sliceLen sliceWrite
  exact readLen_writeLen _ _ _ hL

theorem sliceRead_write (st : Store) (fid : Nat) (bs : List Nat) (hL : bs.length < 2 ^ 64)
    (hsep : SliceSep H fid bs.length) :
    sliceRead H (sliceWrite H st fid bs) fid = if bs.length = 0 then none else some bs := by
  have hlen : readLen (sliceWrite H st fid bs) fid = bs.length := sliceLen_write H st fid bs hL
  unfold sliceRead
  rw [hlen]
  split
  · next h0 => rw [if_pos h0]
  · next h0 =>
    rw [if_neg h0]
    congr 1
    refine (List.map_congr_left fun a ha => ?_).trans (map_getD_range bs)
    have hd : a / 32 < (bs.length + 31) / 32 := div32_lt (List.mem_range.1 ha)
    unfold sliceWrite
    rw [loadBuf_congr _ _ _ _ (writeLen_get_other _ _ _ _ (hsep (a / 32) hd)),
      loadBuf_storeQuad, if_pos ⟨Nat.le_add_right _ _, Nat.add_lt_add_left hd _⟩, Nat.add_sub_cancel_left,
      Nat.div_add_mod]

theorem sliceRead_clear (st : Store) (fid : Nat) : sliceRead H (sliceClear st fid).1 fid = none ∧
    sliceLen (sliceClear st fid).1 fid = 0 := by
  have h : readLen (sliceClear st fid).1 fid = 0 := readLen_clearLen st fid
  exact ⟨by unfold sliceRead; rw [h]; rfl, h⟩

theorem sliceRead_frame (st st' : Store) (fid : Nat)
    (hfid : st'.get fid = st.get fid)
    (hdata : ∀ j, j < (readLen st fid + 31) / 32 → st'.get (H (keyBytes fid) + j) = st.get (H (keyBytes fid) + j)) :
    sliceRead H st' fid = sliceRead H st fid ∧ sliceLen st' fid = sliceLen st fid := by
  have hlen : readLen st' fid = readLen st fid := readLen_congr st st' fid hfid
  refine ⟨?_, hlen⟩
  unfold sliceRead
  rw [hlen]
  split
  · rfl
  · congr 1
    apply List.map_congr_left
    intro a ha
    have ha' := List.mem_range.1 ha
    exact loadBuf_congr _ _ _ _ (hdata _ (by omega))

end

/-! ## whole histories on one vector field -/

/-- operations of a history that only uses vector field 0 (plus raw slot reads), with values of
`8*w` bytes -/
def vecOp (w : Nat) : Op → Bool
  | .vpush 0 v => v.length == 8 * w
  | .vset 0 _ v => v.length == 8 * w
  | .vinsert 0 _ v => v.length == 8 * w
  | .vpop 0 | .vget 0 _ | .vlen 0 | .vremove 0 _ | .vswap 0 _ _ | .vswaprm 0 _ | .vclear 0 => true
  | .raw _ => true
  | _ => false

theorem refOfSize_words {w : Nat} (hw : 0 < w) : refOfSize (8 * w) = false → w = 1 := by
  intro h; simp [refOfSize] at h; omega

theorem optObs_ne_revert (o : Option (List Nat)) : optObs o ≠ Obs.revert := by
  cases o <;> simp [optObs]

theorem vec_step (H : List Nat → Nat) (fid w : Nat) (hw : 0 < w) {st : Store} {xs : List (List Nat)} (op : Op)
    (hop : vecOp w op = true) (h : VecRep H st fid w (refOfSize (8 * w)) xs) (hL : xs.length + 1 < 2 ^ 64)
    (hsep : VecSep H fid ((xs.length + 1) * w)) :
    match stepAbs [.vec xs] op with
    | none => stepSlot H [⟨.vec (8 * w), fid⟩] st op = none
    | some (a', pred) => ∃ st' o xs', stepSlot H [⟨.vec (8 * w), fid⟩] st op = some (st', o) ∧ a' = [.vec xs'] ∧
        VecRep H st' fid w (refOfSize (8 * w)) xs' ∧ xs'.length ≤ xs.length + 1 ∧
        (match pred with | some p => o = p | none => o ≠ .revert) := by
  have hr := refOfSize_words hw
  have hsep0 : VecSep H fid (xs.length * w) := VecSep_mono H hsep (Nat.mul_le_mul_right w (by omega))
  cases op with
  | raw k => exact ⟨st, _, xs, rfl, rfl, h, by omega, optObs_ne_revert _⟩
  | vpush f v =>
    cases f with
    | succ f => cases hop
    | zero =>
      have hv : v.length = 8 * w := eq_of_beq hop
      exact ⟨_, _, _, rfl, rfl, vecPush_rep H v hw hr hv hL hsep h, by simp, rfl⟩
  | vpop f =>
    cases f with
    | succ f => cases hop
    | zero =>
      obtain ⟨e1, e2⟩ := vecPop_rep H hr (by omega) hsep0 h
      dsimp only [stepAbs, stepSlot, List.getElem?_cons_zero]
      cases hg : xs.getLast? with
      | none =>
        have hx : xs = [] := by simpa using hg
        subst hx
        exact ⟨_, _, [], rfl, rfl, e2, by simp, by rw [e1]; rfl⟩
      | some l => exact ⟨_, _, _, rfl, rfl, e2, by simp; omega, by rw [e1, hg]; rfl⟩
  | vget f i =>
    cases f with
    | succ f => cases hop
    | zero =>
      dsimp only [stepAbs, stepSlot, List.getElem?_cons_zero]
      rw [vecGet_rep H h]
      exact ⟨st, _, xs, rfl, rfl, h, by omega, rfl⟩
  | vlen f =>
    cases f with
    | succ f => cases hop
    | zero => exact ⟨st, _, xs, rfl, rfl, h, by omega, by rw [h.len]⟩
  | vset f i v =>
    cases f with
    | succ f => cases hop
    | zero =>
      have hv : v.length = 8 * w := eq_of_beq hop
      dsimp only [stepAbs, stepSlot, List.getElem?_cons_zero]
      by_cases hi : i < xs.length
      · obtain ⟨st', e1, e2⟩ := vecSet_rep H i v hw hr hv hsep0 h hi
        rw [if_pos hi]
        exact ⟨st', _, _, by rw [e1]; rfl, rfl, e2, by simp, rfl⟩
      · rw [if_neg hi, vecSet_oob H i v h hi]; rfl
  | vremove f i =>
    cases f with
    | succ f => cases hop
    | zero =>
      dsimp only [stepAbs, stepSlot, List.getElem?_cons_zero]
      by_cases hi : i < xs.length
      · obtain ⟨st', e1, e2, _⟩ := vecRemove_rep H i hw hr (by omega) hsep0 h hi
        rw [List.getElem?_eq_getElem hi]
        exact ⟨st', _, _, by rw [e1]; rfl, rfl, e2, by rw [List.length_eraseIdx_of_lt hi]; omega, rfl⟩
      · rw [List.getElem?_eq_none (Nat.le_of_not_lt hi), vecRemove_oob H i h hi]; rfl
  | vinsert f i v =>
    cases f with
    | succ f => cases hop
    | zero =>
      have hv : v.length = 8 * w := eq_of_beq hop
      dsimp only [stepAbs, stepSlot, List.getElem?_cons_zero]
      by_cases hi : i ≤ xs.length
      · obtain ⟨st', e1, e2, _⟩ := vecInsert_rep H i v hw hr hv hL hsep h hi
        rw [if_pos hi]
        exact ⟨st', _, _, by rw [e1]; rfl, rfl, e2, by simp; omega, rfl⟩
      · rw [if_neg hi, vecInsert_oob H i v h hi]; rfl
  | vswap f i j =>
    cases f with
    | succ f => cases hop
    | zero =>
      dsimp only [stepAbs, stepSlot, List.getElem?_cons_zero]
      by_cases hi : i < xs.length ∧ j < xs.length
      · obtain ⟨st', e1, e2, _⟩ := vecSwap_rep H i j hw hr hsep0 h hi.1 hi.2
        rw [if_pos hi]
        refine ⟨st', _, _, by rw [e1]; rfl, rfl, e2, ?_, rfl⟩
        simp [swapList, List.getElem?_eq_getElem hi.1, List.getElem?_eq_getElem hi.2]
      · rw [if_neg hi, vecSwap_oob H i j h hi]; rfl
  | vswaprm f i =>
    cases f with
    | succ f => cases hop
    | zero =>
      dsimp only [stepAbs, stepSlot, List.getElem?_cons_zero]
      by_cases hi : i < xs.length
      · obtain ⟨st', l, e0, e1, e2, _⟩ := vecSwapRemove_rep H i hw hr (by omega) hsep0 h hi
        rw [List.getElem?_eq_getElem hi, e0]
        exact ⟨st', _, _, by rw [e1]; rfl, rfl, e2, by simp; omega, rfl⟩
      · rw [List.getElem?_eq_none (Nat.le_of_not_lt hi), vecSwapRemove_oob H i h hi]; rfl
  | vclear f =>
    cases f with
    | succ f => cases hop
    | zero => exact ⟨_, _, [], rfl, rfl, vecClear_rep H st fid w _, by simp, by simp⟩
  | _ => cases hop

theorem vec_history (H : List Nat → Nat) (fid w N : Nat) (hw : 0 < w) (hN : N < 2 ^ 64) (hsep : VecSep H fid (N * w)) :
    ∀ (ops : List Op) (st : Store) (xs : List (List Nat)), (∀ op ∈ ops, vecOp w op = true) →
      VecRep H st fid w (refOfSize (8 * w)) xs → xs.length + ops.length + 1 ≤ N →
      histProp [.vec xs] ops (runSlot H [⟨.vec (8 * w), fid⟩] st ops) = true
  | [], _, _, _, _, _ => rfl
  | op :: ops, st, xs, hops, h, hb => by
    have hlen : xs.length + ops.length + 2 ≤ N := by simpa [Nat.add_assoc] using hb
    have hs := vec_step H fid w hw op (hops op (List.mem_cons_self ..)) h (by omega)
      (VecSep_mono H hsep (Nat.mul_le_mul_right w (by omega)))
    split at hs
    · next hA => simp [runSlot, hs, histProp, hA]
    · next a' pred hA =>
      obtain ⟨st', o, xs', e, rfl, hrep, hl, ho⟩ := hs
      have ih := vec_history H fid w N hw hN hsep ops st' xs' (fun o ho => hops o (List.mem_cons_of_mem _ ho)) hrep
        (by omega)
      simp only [runSlot, e, histProp, hA, ih, Bool.and_true]
      cases pred with
      | some p => simpa using ho
      | none => simpa using ho

end SwayVerif.Storage
