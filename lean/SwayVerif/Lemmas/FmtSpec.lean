import SwayVerif.Model.FmtSpec
/-!
A function that only deletes elements (`Shrinks`) reaches a fixed point under
`fixIter` within `length` steps, and `fixIter` is then idempotent; the leaf normalisations of R6 and the deleting
pass `step` are such functions, which is what `normTok` needs (C19). The newline conversions `toUnix` and
`toWindows` are followed along their own recursion, with one lemma for a head that is not part of a line end and
one for what the head of the result can be (C18).
-/
namespace SwayVerif.FmtSpec

/-! ## Shrinking functions and their fixed points -/

def Shrinks (f : List α → List α) : Prop := ∀ x, (f x).Sublist x

theorem fixIterAux_fixed {f : List α → List α} (hf : Shrinks f) (n : Nat) (x : List α) (hx : x.length ≤ n) :
    f (fixIterAux f n x) = fixIterAux f n x := by
  fun_induction fixIterAux f n x with
  | case1 x =>
    cases List.eq_nil_of_length_eq_zero (Nat.le_zero.1 hx)
    exact List.eq_nil_of_length_eq_zero (Nat.le_zero.1 (hf []).length_le)
  | case2 n x y h =>
    have hy : y = x := (hf x).eq_of_length h
    rw [hy]
    exact hy
  | case3 n x y h ih =>
    have hlt := Nat.lt_of_le_of_ne (hf x).length_le h
    exact ih (Nat.le_of_lt_succ (Nat.lt_of_lt_of_le hlt hx))

theorem fixIterAux_sublist {f : List α → List α} (hf : Shrinks f) (n : Nat) (x : List α) :
    (fixIterAux f n x).Sublist x := by
  fun_induction fixIterAux f n x with
  | case1 x => exact .refl x
  | case2 n x y h => exact hf x
  | case3 n x y h ih => exact ih.trans (hf x)

theorem fixIterAux_of_fixed {f : List α → List α} {y : List α} (h : f y = y) :
    ∀ n, fixIterAux f n y = y
  | 0 => rfl
  | n + 1 => by simp [fixIterAux, h]

theorem fixIter_fixed {f : List α → List α} (hf : Shrinks f) (x : List α) :
    f (fixIter f x) = fixIter f x := fixIterAux_fixed hf _ _ (Nat.le_refl _)

theorem fixIter_sublist {f : List α → List α} (hf : Shrinks f) (x : List α) :
    (fixIter f x).Sublist x := fixIterAux_sublist hf _ _

theorem fixIter_idem {f : List α → List α} (hf : Shrinks f) (x : List α) :
    fixIter f (fixIter f x) = fixIter f x := fixIterAux_of_fixed (fixIter_fixed hf x) _

/-! ## The newline-style kernel -/

theorem crlf_iff {c d : Char} : (c = '\r' && d = '\n') = true ↔ c = '\r' ∧ d = '\n' := by
  rw [Bool.and_eq_true, decide_eq_true_eq, decide_eq_true_eq]

theorem toUnix_sublist (s : List Char) : (toUnix s).Sublist s := by
  fun_induction toUnix s with
  | case1 => exact .slnil
  | case2 c => exact .refl _
  | case3 c d ds h ih =>
    obtain ⟨rfl, rfl⟩ := crlf_iff.1 h
    exact (ih.cons_cons _).cons _
  | case4 c d ds h ih => exact ih.cons_cons _

theorem cr_ne_lf : '\r' ≠ '\n' := by decide

theorem toWindows_head_ne_lf (s r : List Char) : toWindows s ≠ '\n' :: r := by
  fun_induction toWindows s with
  | case1 => nofun
  | case2 => exact fun h' => cr_ne_lf (List.cons.inj h').1
  | case3 c h => exact fun h' => h (List.cons.inj h').1
  | case4 => exact fun h' => cr_ne_lf (List.cons.inj h').1
  | case5 => exact fun h' => cr_ne_lf (List.cons.inj h').1
  | case6 c d ds h _ _ => exact fun h' => h (List.cons.inj h').1

theorem toWindows_cons_ne {c : Char} (hc : c ≠ '\n') (s : List Char)
    (hnot : ¬ (c = '\r' ∧ ∃ r, s = '\n' :: r)) : toWindows (c :: s) = c :: toWindows s := by
  cases s with
  | nil => simp [toWindows, hc]
  | cons d ds =>
    simp only [toWindows, hc, if_false]
    split
    · next h =>
      obtain ⟨h1, rfl⟩ := crlf_iff.1 h
      exact absurd ⟨h1, ds, rfl⟩ hnot
    · rfl

theorem toWindows_crlf (s : List Char) : toWindows ('\r' :: '\n' :: s) = '\r' :: '\n' :: toWindows s := by
  simp [toWindows]

theorem toWindows_lf (s : List Char) : toWindows ('\n' :: s) = '\r' :: '\n' :: toWindows s := by
  cases s <;> simp [toWindows]

theorem toWindows_idem (s : List Char) : toWindows (toWindows s) = toWindows s := by
  fun_induction toWindows s with
  | case1 => rfl
  | case2 => rfl
  | case3 c h => exact if_neg h
  | case4 d ds ih => rw [toWindows_crlf, ih]
  | case5 c d ds _ h ih => rw [toWindows_crlf, ih]
  | case6 c d ds hc h ih =>
    rw [toWindows_cons_ne hc, ih]
    exact fun ⟨_, r, h2⟩ => toWindows_head_ne_lf _ _ h2

theorem toUnix_cons_ne {c : Char} (s : List Char) (hnot : ¬ (c = '\r' ∧ ∃ r, s = '\n' :: r)) :
    toUnix (c :: s) = c :: toUnix s := by
  cases s with
  | nil => rfl
  | cons d ds =>
    dsimp only [toUnix]
    split
    · next h =>
      obtain ⟨h1, rfl⟩ := crlf_iff.1 h
      exact absurd ⟨h1, ds, rfl⟩ hnot
    · rfl

theorem toUnix_head_lf {s r : List Char} (h : toUnix s = '\n' :: r) :
    (∃ r', s = '\n' :: r') ∨ ∃ r', s = '\r' :: '\n' :: r' := by
  fun_induction toUnix s with
  | case1 => nomatch h
  | case2 c => exact .inl ⟨[], (List.cons.inj h).1 ▸ rfl⟩
  | case3 c d ds hcd _ =>
    obtain ⟨rfl, rfl⟩ := crlf_iff.1 hcd
    exact .inr ⟨ds, rfl⟩
  | case4 c d ds _ _ => exact .inl ⟨d :: ds, by rw [(List.cons.inj h).1]⟩

theorem hasCRCRLF_cons (c : Char) (s : List Char) (h : hasCRCRLF (c :: s) = false) : hasCRCRLF s = false := by
  simp only [hasCRCRLF, Bool.or_eq_false_iff] at h
  exact h.2

theorem toUnix_idem_of_noCRCRLF (s : List Char) (h : hasCRCRLF s = false) : toUnix (toUnix s) = toUnix s := by
  fun_induction toUnix s with
  | case1 => rfl
  | case2 c => rfl
  | case3 c d ds _ ih =>
    rw [toUnix_cons_ne, ih (hasCRCRLF_cons _ _ (hasCRCRLF_cons _ _ h))]
    exact fun ⟨h1, _⟩ => cr_ne_lf h1.symm
  | case4 c d ds hcd ih =>
    rw [toUnix_cons_ne, ih (hasCRCRLF_cons _ _ h)]
    -- a `\r` before a converted `\n` needs `\r\n` (excluded here) or `\r\r\n` (excluded by `h`) in the input
    rintro ⟨rfl, r, hr⟩
    rcases toUnix_head_lf hr with ⟨r', hd⟩ | ⟨r', hd⟩
    · cases hd
      exact hcd rfl
    · cases hd
      exact Bool.noConfusion h

theorem eraseNewlines_cons_cr (s : List Char) : eraseNewlines ('\r' :: s) = eraseNewlines s := rfl
theorem eraseNewlines_cons_lf (s : List Char) : eraseNewlines ('\n' :: s) = eraseNewlines s := rfl
theorem eraseNewlines_cons (c : Char) (s : List Char) :
    eraseNewlines (c :: s) = eraseNewlines [c] ++ eraseNewlines s :=
  List.filter_append [c] s

theorem toUnix_erase (s : List Char) : eraseNewlines (toUnix s) = eraseNewlines s := by
  fun_induction toUnix s with
  | case1 => rfl
  | case2 c => rfl
  | case3 c d ds h ih =>
    obtain ⟨rfl, rfl⟩ := crlf_iff.1 h
    rw [eraseNewlines_cons_lf, eraseNewlines_cons_cr, eraseNewlines_cons_lf, ih]
  | case4 c d ds _ ih => rw [eraseNewlines_cons, ih, ← eraseNewlines_cons]

theorem toWindows_erase (s : List Char) : eraseNewlines (toWindows s) = eraseNewlines s := by
  fun_induction toWindows s with
  | case1 => rfl
  | case2 => exact eraseNewlines_cons_cr _
  | case3 c h => rfl
  | case4 d ds ih => rw [eraseNewlines_cons_cr, eraseNewlines_cons_lf, eraseNewlines_cons_lf, ih]
  | case5 c d ds _ h ih =>
    obtain ⟨rfl, rfl⟩ := crlf_iff.1 h
    rw [eraseNewlines_cons_cr, eraseNewlines_cons_lf, eraseNewlines_cons_cr, eraseNewlines_cons_lf, ih]
  | case6 c d ds _ _ ih => rw [eraseNewlines_cons, ih, ← eraseNewlines_cons]

/-! ## The newline-sequence clamp -/

theorem clampTotal_eq (len thr : Nat) :
    clampTotal len thr = if len = 0 then none else some (min len (thr + 1)) := by
  unfold clampTotal fmtNewlineSeq
  split
  · next h => rw [if_neg (Nat.ne_zero_of_lt h), Nat.min_eq_right h]; rfl
  · next h =>
    split
    · rfl
    · next h0 =>
      rw [Option.map_some, Nat.sub_add_cancel (Nat.pos_of_ne_zero h0),
        Nat.min_eq_left (Nat.le_succ_of_le (Nat.le_of_not_gt h))]

/-! ## `normTok`: leaf normalisation (R6) and the deleting pass -/

theorem dropLastWs_sublist (s : List Char) : (dropLastWs s).Sublist s := by
  fun_induction dropLastWs s with
  | case1 => exact .slnil
  | case2 c h => exact List.nil_sublist _
  | case3 c h => exact .refl _
  | case4 c d cs ih => exact ih.cons_cons _

theorem normLit_idem (s : List Char) : normLit (normLit s) = normLit s := fixIter_idem toUnix_sublist s
theorem normComment_idem (s : List Char) : normComment (normComment s) = normComment s :=
  fixIter_idem (fun x => (toUnix_sublist _).trans (dropLastWs_sublist x)) s

theorem normLeaf_idem (t : Tok) : normLeaf (normLeaf t) = normLeaf t := by
  obtain ⟨k, s⟩ := t
  cases k <;> simp [normLeaf, normLit_idem, normComment_idem]

theorem map_normLeaf_of_sublist {y ts : List Tok} (h : y.Sublist (ts.map normLeaf)) : y.map normLeaf = y := by
  have hall : ∀ t ∈ y, normLeaf t = t := by
    intro t ht
    obtain ⟨u, _, hu⟩ := List.mem_map.mp (h.subset ht)
    rw [← hu, normLeaf_idem]
  calc y.map normLeaf = y.map id := List.map_congr_left hall
    _ = y := List.map_id y

theorem stepGo_sublist (ts : List Tok) (st : St) : (stepGo st ts).Sublist ts := by
  fun_induction stepGo st ts with
  | case1 => exact .slnil
  | case2 st t r h ih => exact ih.cons _
  | case3 st t r h ih => exact ih.cons_cons _

theorem step_sublist (ts : List Tok) : (step ts).Sublist ts := stepGo_sublist ts _

end SwayVerif.FmtSpec
