import SwayVerif.Model.Dispatch
/-!
Why the generated `__entry` (C11) runs the named method: the table-building loop of `generate_contract_entry`
maintains `Inv` (every arm sits under its own length and addresses its method's name inside the names literal, by
`find_spec` or because the name was just appended; every method has an arm), and over a table with that property
the cascade of `if`s is a `List.find?` for the first arm whose method bears the called name (`runGroups_eq`).
`dispatch_buildTable` puts the two together.
-/
namespace SwayVerif.Dispatch

/-! ### `slice`, `isPrefix`, `find` -/

theorem slice_eq_some {names : Bytes} {off len : Nat} {x : Bytes} :
    slice names off len = some x ↔ off + len ≤ names.length ∧ (names.drop off).take len = x := by
  unfold slice
  split <;> simp [*]

theorem slice_cons_succ (c : UInt8) (s : Bytes) (o l : Nat) : slice (c :: s) (o + 1) l = slice s o l := by
  simp [slice, Nat.add_right_comm o 1 l]

theorem slice_append_left {s : Bytes} {off len : Nat} {x : Bytes} (t : Bytes)
    (h : slice s off len = some x) : slice (s ++ t) off len = some x := by
  have ⟨h1, h2⟩ := slice_eq_some.1 h
  refine slice_eq_some.2 ⟨Nat.le_trans h1 (List.length_append ▸ Nat.le_add_right _ _), ?_⟩
  rw [List.drop_append_of_le_length (Nat.le_trans (Nat.le_add_right _ _) h1), List.take_append_of_le_length, h2]
  rw [List.length_drop]
  exact Nat.le_sub_of_add_le' h1

theorem slice_append_right (s p : Bytes) : slice (s ++ p) s.length p.length = some p := by
  simp [slice]

theorem slice_length {s : Bytes} {off len : Nat} {x : Bytes} (h : slice s off len = some x) :
    x.length = len := by
  have ⟨h1, h2⟩ := slice_eq_some.1 h
  rw [← h2, List.length_take, List.length_drop]
  exact Nat.min_eq_left (Nat.le_sub_of_add_le' h1)

theorem isPrefix_iff (p s : Bytes) : isPrefix p s = true ↔ slice s 0 p.length = some p := by
  induction p generalizing s with
  | nil => simp [isPrefix, slice]
  | cons a p ih =>
    cases s with
    | nil => simp [isPrefix, slice]
    | cons c s =>
      simp only [isPrefix, Bool.and_eq_true, beq_iff_eq, ih, slice_eq_some, List.length_cons, List.take_succ_cons,
        List.cons.injEq, Nat.add_le_add_iff_right, Nat.zero_add, List.drop_zero]
      constructor
      · rintro ⟨rfl, h1, h2⟩; exact ⟨h1, rfl, h2⟩
      · rintro ⟨h1, rfl, h2⟩; exact ⟨rfl, h1, h2⟩

theorem find_spec (s p : Bytes) :
    (∀ o, find s p = some o → slice s o p.length = some p ∧ ∀ o' < o, slice s o' p.length ≠ some p) ∧
    (find s p = none → ∀ o, slice s o p.length ≠ some p) := by
  fun_induction find s p with
  | case1 s hp =>
    refine ⟨fun o h => ?_, fun h => nomatch h⟩
    cases h
    exact ⟨(isPrefix_iff p s).1 hp, fun o' h' => nomatch h'⟩
  | case2 hp =>
    refine ⟨fun o h => (nomatch h), fun _ o hs => hp ?_⟩
    have : o = 0 := Nat.eq_zero_of_add_eq_zero_right (Nat.le_zero.1 (slice_eq_some.1 hs).1)
    exact (isPrefix_iff p []).2 (this ▸ hs)
  | case3 c s hp ih =>
    have h0 : slice (c :: s) 0 p.length ≠ some p := fun hs => hp ((isPrefix_iff p _).2 hs)
    constructor
    · intro o h
      obtain ⟨o1, ho1, rfl⟩ := Option.map_eq_some_iff.1 h
      rw [slice_cons_succ]
      refine ⟨(ih.1 o1 ho1).1, fun o' h' => ?_⟩
      cases o' with
      | zero => exact h0
      | succ o2 =>
        rw [slice_cons_succ]
        exact (ih.1 o1 ho1).2 o2 (Nat.lt_of_succ_lt_succ h')
    · intro h o
      cases o with
      | zero => exact h0
      | succ o2 =>
        rw [slice_cons_succ]
        exact ih.2 (Option.map_eq_none_iff.1 h) o2

theorem find_some {s p : Bytes} {o : Nat} (h : find s p = some o) : slice s o p.length = some p :=
  ((find_spec s p).1 o h).1

theorem find_first {s p : Bytes} {o : Nat} (h : find s p = some o) :
    ∀ o', o' < o → slice s o' p.length ≠ some p :=
  ((find_spec s p).1 o h).2

theorem find_none {s p : Bytes} (h : find s p = none) : ∀ o, slice s o p.length ≠ some p :=
  (find_spec s p).2 h

/-! ### `flatten` and `insertArm` -/

theorem mem_flatten {g : Groups} {k : Nat} {e : Entry} :
    (k, e) ∈ flatten g ↔ ∃ es, (k, es) ∈ g ∧ e ∈ es := by
  unfold flatten
  simp only [List.mem_flatMap, List.mem_map, Prod.mk.injEq, Prod.exists]
  constructor
  · rintro ⟨k', es, hm, e', he', rfl, rfl⟩; exact ⟨es, hm, he'⟩
  · rintro ⟨es, hm, he⟩; exact ⟨k, es, hm, e, he, rfl, rfl⟩

theorem flatten_cons (k : Nat) (es : List Entry) (r : Groups) :
    flatten ((k, es) :: r) = es.map (fun e => (k, e)) ++ flatten r := by
  simp [flatten]

theorem mem_flatten_insertArm (g : Groups) (k : Nat) (e : Entry) (p : Nat × Entry) :
    p ∈ flatten (insertArm g k e) ↔ p = (k, e) ∨ p ∈ flatten g := by
  fun_induction insertArm g k e with
  | case1 => simp [flatten]
  | case2 =>
    simp only [flatten_cons, List.map_append, List.map_cons, List.map_nil, List.mem_append, List.mem_singleton]
    rw [or_comm (b := p = _), or_assoc]
  | case3 => exact List.mem_cons
  | case4 _ _ _ _ _ _ _ ih =>
    simp only [flatten_cons, List.mem_append, ih]
    exact or_left_comm

/-! ### the loop invariant -/

def nm (all : List Bytes) (i : Nat) : Bytes := (all[i]?).getD []

theorem nm_of_lt {all : List Bytes} {i : Nat} (hi : i < all.length) : nm all i = all[i] := by
  simp [nm, hi]

structure Inv (all : List Bytes) (t : Table) (idx : Nat) : Prop where
  arms : ∀ k e, (k, e) ∈ flatten t.groups →
    k = e.len ∧ e.idx < idx ∧ e.len = (nm all e.idx).length ∧ slice t.names e.off e.len = some (nm all e.idx)
  covered : ∀ i, i < idx → ∃ k e, (k, e) ∈ flatten t.groups ∧ e.idx = i

theorem inv_init (all : List Bytes) : Inv all ⟨[], []⟩ 0 :=
  ⟨fun _ _ h => (nomatch h), fun _ h => (nomatch h)⟩

theorem inv_insert {all : List Bytes} {t : Table} {idx off : Nat} {names' : Bytes}
    (hinv : Inv all t idx) (hext : ∀ {o l x}, slice t.names o l = some x → slice names' o l = some x)
    (hs : slice names' off (nm all idx).length = some (nm all idx)) :
    Inv all ⟨names', insertArm t.groups (nm all idx).length ⟨(nm all idx).length, off, idx⟩⟩ (idx + 1) where
  arms k e h := by
    rcases (mem_flatten_insertArm _ _ _ _).1 h with h | h
    · cases h
      exact ⟨rfl, Nat.lt_succ_self _, rfl, hs⟩
    · obtain ⟨a, b, c, d⟩ := hinv.arms k e h
      exact ⟨a, Nat.lt_succ_of_lt b, c, hext d⟩
  covered i hi := by
    rcases Nat.lt_succ_iff_lt_or_eq.1 hi with hi | rfl
    · obtain ⟨k, e, hm, he⟩ := hinv.covered i hi
      exact ⟨k, e, (mem_flatten_insertArm _ _ _ _).2 (Or.inr hm), he⟩
    · exact ⟨_, _, (mem_flatten_insertArm _ _ _ _).2 (Or.inl rfl), rfl⟩

theorem inv_step {all : List Bytes} {t : Table} {idx : Nat} {n : Bytes}
    (hinv : Inv all t idx) (hn : all[idx]? = some n) : Inv all (step t idx n) (idx + 1) := by
  have hnm : nm all idx = n := by simp [nm, hn]
  subst hnm
  unfold step
  split
  · next off hf => exact inv_insert hinv id (find_some hf)
  · exact inv_insert hinv (slice_append_left _) (slice_append_right _ _)

theorem inv_buildFrom {all : List Bytes} {t : Table} {idx : Nat} (rest : List Bytes)
    (hinv : Inv all t idx) (hle : idx ≤ all.length) (hrest : all.drop idx = rest) :
    Inv all (buildFrom t idx rest) all.length := by
  induction rest generalizing t idx with
  | nil =>
    have : idx = all.length := Nat.le_antisymm hle (List.drop_eq_nil_iff.1 hrest)
    exact this ▸ hinv
  | cons n r ih =>
    have hn : all[idx]? = some n := by rw [← List.head?_drop, hrest]; rfl
    have hlt : idx < all.length := (List.getElem?_eq_some_iff.1 hn).1
    exact ih (inv_step hinv hn) hlt (by rw [← List.drop_drop, hrest]; rfl)

theorem buildTable_inv (ms : List Method) :
    Inv (ms.map (·.name)) (buildTable ms) (ms.map (·.name)).length :=
  inv_buildFrom _ (inv_init _) (Nat.zero_le _) rfl

/-! ### the generated `if` cascade over a table that satisfies the invariant -/

/-- What an arm must satisfy (the part of `Inv.arms` the cascade depends on). -/
def ArmOk (all : List Bytes) (names : Bytes) (k : Nat) (e : Entry) : Prop :=
  k = e.len ∧ e.len = (nm all e.idx).length ∧ slice names e.off e.len = some (nm all e.idx)

theorem runArms_eq {all : List Bytes} {names call : Bytes} {k : Nat} (es : List Entry)
    (hk : call.length = k) (h : ∀ e, e ∈ es → ArmOk all names k e) :
    runArms names call es =
      ((es.map fun e => (k, e)).find? fun p => nm all p.2.idx = call).map fun p => .method p.2.idx := by
  induction es with
  | nil => rfl
  | cons e r ih =>
    obtain ⟨h1, h2, h3⟩ := h e List.mem_cons_self
    have hlen : call.take e.len = call := by rw [← h1, ← hk]; exact List.take_length
    simp only [runArms, h3, hlen, List.map_cons, List.find?_cons]
    by_cases hc : nm all e.idx = call
    · simp only [hc, if_true, decide_true, Option.map_some]
    · simp only [hc, if_false, decide_false]
      exact ih fun e' he' => h e' (List.mem_cons_of_mem _ he')

theorem runGroups_eq {all : List Bytes} {names call : Bytes} (g : Groups)
    (h : ∀ k e, (k, e) ∈ flatten g → ArmOk all names k e) :
    runGroups names call g =
      ((flatten g).find? fun p => nm all p.2.idx = call).map fun p => .method p.2.idx := by
  induction g with
  | nil => rfl
  | cons hd r ih =>
    obtain ⟨k, es⟩ := hd
    have hes : ∀ e, e ∈ es → ArmOk all names k e := fun e he =>
      h k e (by rw [flatten_cons]; exact List.mem_append_left _ (List.mem_map.2 ⟨e, he, rfl⟩))
    have hr : ∀ k' e, (k', e) ∈ flatten r → ArmOk all names k' e := fun k' e he =>
      h k' e (by rw [flatten_cons]; exact List.mem_append_right _ he)
    rw [flatten_cons, List.find?_append, Option.map_or, ← ih hr]
    dsimp only [runGroups]
    split
    · next hk =>
      rw [runArms_eq es hk hes]
      cases List.find? _ (es.map _) <;> rfl
    · next hk =>
      -- the names of a group of another length differ from `call` in length
      rw [List.find?_eq_none.2]
      · rfl
      · intro p hp hc
        obtain ⟨e, he, rfl⟩ := List.mem_map.1 hp
        obtain ⟨h1, h2, _⟩ := hes e he
        exact hk (by rw [← of_decide_eq_true hc, ← h2, ← h1])

theorem dispatch_buildTable (ms : List Method) (fb : Bool) (call : Bytes) :
    (∃ i, ∃ hi : i < ms.length, ms[i].name = call ∧ dispatch (buildTable ms) fb call = .method i) ∨
    (call ∉ ms.map (·.name) ∧ dispatch (buildTable ms) fb call = if fb then .fallback else .revert) := by
  have hinv := buildTable_inv ms
  unfold dispatch
  rw [runGroups_eq _ fun k e h => let ⟨a, _, c, d⟩ := hinv.arms k e h; ⟨a, c, d⟩]
  cases hfm : (flatten (buildTable ms).groups).find? _ with
  | some p =>
    have hi := (hinv.arms p.1 p.2 (List.mem_of_find?_eq_some hfm)).2.1
    have hc := List.find?_some hfm
    rw [decide_eq_true_eq, nm_of_lt hi, List.getElem_map] at hc
    exact .inl ⟨p.2.idx, List.length_map _ ▸ hi, hc, rfl⟩
  | none =>
    refine .inr ⟨fun hmem => ?_, rfl⟩
    obtain ⟨i, hi, rfl⟩ := List.getElem_of_mem hmem
    obtain ⟨k, e, hm, rfl⟩ := hinv.covered i hi
    exact List.find?_eq_none.1 hfm (k, e) hm (decide_eq_true (nm_of_lt hi))

theorem indexOfName_none {call : Bytes} {ms : List Method} (h : indexOfName call ms = none) :
    call ∉ ms.map (·.name) := by
  fun_induction indexOfName call ms with
  | case1 => exact List.not_mem_nil
  | case2 m r hc => nomatch h
  | case3 m r hne ih =>
    rw [List.map_cons, List.mem_cons, not_or]
    exact ⟨Ne.symm hne, ih (Option.map_eq_none_iff.1 h)⟩

theorem indexOfName_some {call : Bytes} {ms : List Method} {i : Nat}
    (h : indexOfName call ms = some i) : ∃ hi : i < ms.length, ms[i].name = call := by
  fun_induction indexOfName call ms generalizing i with
  | case1 => nomatch h
  | case2 m r hc => cases h; exact ⟨Nat.zero_lt_succ _, hc⟩
  | case3 m r hne ih =>
    obtain ⟨j, hj, rfl⟩ := Option.map_eq_some_iff.1 h
    obtain ⟨hjl, hjn⟩ := ih hj
    exact ⟨Nat.succ_lt_succ hjl, hjn⟩

end SwayVerif.Dispatch
