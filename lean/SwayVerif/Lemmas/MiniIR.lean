import SwayVerif.Model.MiniIR
/-!
Each of the three modelled MiniIR transformations (property C03) is compared with the original run by induction
on the fuel. `runFrom` is read one block at a time: `execBlock` is its body with the recursive call as a
continuation, so a transformation only has to be followed through one block. Block removal and `cbr` folding keep
the environment; DCE keeps it on the variables the function uses (`Agree`).
-/
namespace SwayVerif.MiniIR

theorem findBlock_some {bs : List Block} {l : Label} {b : Block} (h : findBlock bs l = some b) :
    b ∈ bs ∧ b.label = l := by
  induction bs with
  | nil => simp [findBlock] at h
  | cons c cs ih =>
    unfold findBlock at h
    by_cases hc : c.label = l
    · simp [hc] at h
      subst h
      exact ⟨List.mem_cons_self, hc⟩
    · simp [hc] at h
      exact ⟨List.mem_cons_of_mem _ (ih h).1, (ih h).2⟩

theorem findBlock_map (g : Block → Block) (hg : ∀ b, (g b).label = b.label) (bs : List Block) (l : Label) :
    findBlock (bs.map g) l = (findBlock bs l).map g := by
  induction bs with
  | nil => rfl
  | cons c cs ih =>
    simp only [List.map, findBlock, hg]
    by_cases hc : c.label = l
    · simp [hc]
    · simp [hc, ih]

/-! ## `runFrom`, one block at a time -/

def execBlock (k : Env → Label → List Val → Outcome) (b : Block) (e : Env) (vals : List Val) : Outcome :=
  match bindParams e b.params vals with
  | none => .stuck
  | some e1 =>
    match execInsts e1 b.insts with
    | .trap => .trap
    | .stuck => .stuck
    | .ok e2 =>
      match stepTerm e2 b.term with
      | .stuck => .stuck
      | .done v => .ret v
      | .jump l' vals' => k e2 l' vals'

theorem runFrom_succ (f : Func) (n : Nat) (e : Env) (l : Label) (vals : List Val) :
    runFrom f (n + 1) e l vals =
      match findBlock f.blocks l with
      | none => .stuck
      | some b => execBlock (runFrom f n) b e vals := rfl

theorem execBlock_congr {k k' : Env → Label → List Val → Outcome} {b : Block} (e : Env) (vals : List Val)
    (h : ∀ e' l' vals', stepTerm e' b.term = .jump l' vals' → k e' l' vals' = k' e' l' vals') :
    execBlock k b e vals = execBlock k' b e vals := by
  unfold execBlock
  cases bindParams e b.params vals with
  | none => rfl
  | some e1 =>
    dsimp only
    cases execInsts e1 b.insts with
    | trap => rfl
    | stuck => rfl
    | ok e2 =>
      dsimp only
      cases hst : stepTerm e2 b.term with
      | stuck => rfl
      | done v => rfl
      | jump l' vals' => exact h e2 l' vals' hst

/-! ## removing blocks outside a successor-closed set -/

theorem stepTerm_jump_succ {e : Env} {t : Term} {l : Label} {vs : List Val}
    (h : stepTerm e t = .jump l vs) : l ∈ t.succs := by
  cases t with
  | br l' args =>
    dsimp only [stepTerm] at h
    split at h <;> cases h
    exact List.mem_cons_self
  | cbr c lt ta lf fa =>
    dsimp only [stepTerm] at h
    split at h
    · split at h <;> cases h
      exact List.mem_cons_self
    · split at h <;> cases h
      exact List.mem_cons_of_mem _ List.mem_cons_self
    · cases h
  | ret v =>
    dsimp only [stepTerm] at h
    split at h <;> cases h

theorem findBlock_filter (keep : Label → Bool) (bs : List Block) (l : Label) (h : keep l = true) :
    findBlock (bs.filter fun b => keep b.label) l = findBlock bs l := by
  induction bs with
  | nil => rfl
  | cons c cs ih =>
    by_cases hc : c.label = l
    · subst hc
      simp [List.filter, h, findBlock]
    · cases hk : keep c.label
      · simp [List.filter, hk, findBlock, hc, ih]
      · simp [List.filter, hk, findBlock, hc, ih]

theorem closedB_succ {keep : Label → Bool} {f : Func} (hc : closedB keep f = true)
    {b : Block} (hb : b ∈ f.blocks) (hk : keep b.label = true) {l : Label} (hl : l ∈ b.term.succs) :
    keep l = true := by
  unfold closedB at hc
  rw [List.all_eq_true] at hc
  have h1 := hc b hb
  simp only [hk, Bool.not_true, Bool.false_or, List.all_eq_true] at h1
  exact h1 l hl

theorem runFrom_filter (keep : Label → Bool) (f : Func) (hc : closedB keep f = true) :
    ∀ (n : Nat) (e : Env) (l : Label) (vals : List Val), keep l = true →
      runFrom (filterBlocks keep f) n e l vals = runFrom f n e l vals := by
  intro n
  induction n with
  | zero => intro e l vals _; rfl
  | succ n ih =>
    intro e l vals hk
    rw [runFrom_succ, runFrom_succ, filterBlocks, findBlock_filter keep f.blocks l hk]
    cases hfb : findBlock f.blocks l with
    | none => rfl
    | some b =>
      have ⟨hbm, hbl⟩ := findBlock_some hfb
      exact execBlock_congr e vals fun e' l' vals' hst =>
        ih e' l' vals' (closedB_succ hc hbm (hbl ▸ hk) (stepTerm_jump_succ hst))

/-! ## `cbr` on a constant -/

theorem stepTerm_foldCbrTerm (e : Env) (t : Term) : stepTerm e (foldCbrTerm t) = stepTerm e t := by
  cases t with
  | br l args => rfl
  | ret v => rfl
  | cbr c lt ta lf fa =>
    cases c with
    | var x => rfl
    | const v =>
      cases v with
      | u n => rfl
      | b v => cases v <;> simp [foldCbrTerm, stepTerm, evalOp]

theorem findBlock_foldCbr (f : Func) (l : Label) :
    findBlock (foldCbr f).blocks l = (findBlock f.blocks l).map fun b => { b with term := foldCbrTerm b.term } :=
  findBlock_map (fun b => { b with term := foldCbrTerm b.term }) (fun _ => rfl) f.blocks l

theorem execBlock_foldCbr (k : Env → Label → List Val → Outcome) (b : Block) (e : Env) (vals : List Val) :
    execBlock k { b with term := foldCbrTerm b.term } e vals = execBlock k b e vals := by
  simp only [execBlock, stepTerm_foldCbrTerm]

theorem runFrom_foldCbr (f : Func) :
    ∀ (n : Nat) (e : Env) (l : Label) (vals : List Val),
      runFrom (foldCbr f) n e l vals = runFrom f n e l vals := by
  intro n
  induction n with
  | zero => intro e l vals; rfl
  | succ n ih =>
    intro e l vals
    rw [runFrom_succ, runFrom_succ, findBlock_foldCbr]
    cases findBlock f.blocks l with
    | none => rfl
    | some b =>
      simp only [Option.map, execBlock_foldCbr]
      exact execBlock_congr e vals fun e' l' vals' _ => ih e' l' vals'

/-! ## DCE -/

def Agree (U : List Var) (e1 e2 : Env) : Prop := ∀ x, x ∈ U → e1 x = e2 x

theorem Agree.refl (U : List Var) (e : Env) : Agree U e e := fun _ _ => rfl

theorem Agree.set {U : List Var} {e1 e2 : Env} (h : Agree U e1 e2) (x : Var) (v : Val) :
    Agree U (e1.set x v) (e2.set x v) := by
  intro y hy
  dsimp only [Env.set]
  by_cases hyx : y = x
  · simp [hyx]
  · simp [hyx, h y hy]

theorem Agree.set_left {U : List Var} {e1 e2 : Env} (h : Agree U e1 e2) {x : Var} (hx : x ∉ U) (v : Val) :
    Agree U (e1.set x v) e2 := by
  intro y hy
  dsimp only [Env.set]
  by_cases hyx : y = x
  · subst hyx; exact absurd hy hx
  · simp [hyx, h y hy]

theorem evalOp_agree {U : List Var} {e1 e2 : Env} (h : Agree U e1 e2) (o : Operand)
    (ho : ∀ x, x ∈ o.vars → x ∈ U) : evalOp e1 o = evalOp e2 o := by
  cases o with
  | var x => exact h x (ho x (by simp [Operand.vars]))
  | const v => rfl

theorem evalOps_agree {U : List Var} {e1 e2 : Env} (h : Agree U e1 e2) (os : List Operand)
    (ho : ∀ x, x ∈ os.flatMap Operand.vars → x ∈ U) : evalOps e1 os = evalOps e2 os := by
  induction os with
  | nil => rfl
  | cons o os ih =>
    simp only [evalOps, evalOp_agree h o fun x hx => ho x (List.mem_append_left _ hx),
      ih fun x hx => ho x (List.mem_append_right _ hx)]

theorem stepTerm_agree {U : List Var} {e1 e2 : Env} (h : Agree U e1 e2) (t : Term)
    (ht : ∀ x, x ∈ t.uses → x ∈ U) : stepTerm e1 t = stepTerm e2 t := by
  cases t with
  | br l args => simp only [stepTerm, evalOps_agree h args ht]
  | ret v => simp only [stepTerm, evalOp_agree h v ht]
  | cbr c lt ta lf fa =>
    simp only [stepTerm,
      evalOp_agree h c fun x hx => ht x (List.mem_append_left _ (List.mem_append_left _ hx)),
      evalOps_agree h ta fun x hx => ht x (List.mem_append_left _ (List.mem_append_right _ hx)),
      evalOps_agree h fa fun x hx => ht x (List.mem_append_right _ hx)]

/-- The value an instruction computes in `e`: `none` = stuck, `some none` = trap. -/
def Inst.eval (e : Env) : Inst → Option (Option Val)
  | .binop _ op a b => match evalOp e a, evalOp e b with
    | some (.u x), some (.u y) => some ((evalBin op x y).map .u)
    | _, _ => none
  | .cmp _ p a b => match evalOp e a, evalOp e b with
    | some x, some y => (evalPred p x y).map fun r => some (.b r)
    | _, _ => none

theorem stepInst_eq (e : Env) (i : Inst) :
    stepInst e i = match i.eval e with
      | some (some v) => .ok (e.set i.dst v)
      | some none => .trap
      | none => .stuck := by
  cases i with
  | binop d op a b =>
    dsimp only [stepInst, Inst.eval, Inst.dst]
    rcases evalOp e a with _ | x | x <;> rcases evalOp e b with _ | y | y <;> try rfl
    dsimp only
    cases evalBin op x y <;> rfl
  | cmp d p a b =>
    dsimp only [stepInst, Inst.eval, Inst.dst]
    rcases evalOp e a with _ | x <;> rcases evalOp e b with _ | y <;> try rfl
    dsimp only
    cases evalPred p x y <;> rfl

theorem Inst.eval_agree {U : List Var} {e1 e2 : Env} (h : Agree U e1 e2) (i : Inst)
    (hi : ∀ x, x ∈ i.uses → x ∈ U) : i.eval e1 = i.eval e2 := by
  cases i with
  | binop d op a b =>
    simp only [Inst.eval, evalOp_agree h a fun x hx => hi x (List.mem_append_left _ hx),
      evalOp_agree h b fun x hx => hi x (List.mem_append_right _ hx)]
  | cmp d p a b =>
    simp only [Inst.eval, evalOp_agree h a fun x hx => hi x (List.mem_append_left _ hx),
      evalOp_agree h b fun x hx => hi x (List.mem_append_right _ hx)]

theorem Inst.eval_trap {e : Env} {i : Inst} (h : i.eval e = some none) : i.nonTrapping = false := by
  cases i with
  | cmp d p a b =>
    dsimp only [Inst.eval] at h
    split at h
    · simp at h
    · cases h
  | binop d op a b =>
    dsimp only [Inst.eval] at h
    split at h
    · cases op with
      | add | sub | mul | div | mod => rfl
      | and | or | xor | lsh | rsh => cases h
    · cases h

theorem bindParams_agree {U : List Var} :
    ∀ (ps : List Var) (vs : List Val) (e1 e2 a : Env), Agree U e1 e2 → bindParams e1 ps vs = some a →
      ∃ b, bindParams e2 ps vs = some b ∧ Agree U a b := by
  intro ps
  induction ps with
  | nil =>
    intro vs e1 e2 a h ha
    cases vs with
    | nil => cases ha; exact ⟨e2, rfl, h⟩
    | cons v vs => cases ha
  | cons p ps ih =>
    intro vs e1 e2 a h ha
    cases vs with
    | nil => cases ha
    | cons v vs => exact ih vs _ _ a (h.set p v) ha

/-- What executing `is` in `e1` and the surviving instructions in `e2` can give.
`bad` = some dead instruction of `is` may trap. -/
def ExecSpec (U : List Var) (bad : Prop) (r1 r2 : StepRes) : Prop :=
  match r1 with
  | .stuck => True
  | .ok a => ∃ b, r2 = .ok b ∧ Agree U a b
  | .trap => r2 = .trap ∨ bad

theorem ExecSpec.mono {U : List Var} {bad bad' : Prop} {r1 r2 : StepRes} (hb : bad → bad')
    (h : ExecSpec U bad r1 r2) : ExecSpec U bad' r1 r2 := by
  cases r1 with
  | stuck => trivial
  | ok a => exact h
  | trap => exact h.imp_right hb

theorem execInsts_dce (U : List Var) :
    ∀ (is : List Inst) (e1 e2 : Env), Agree U e1 e2 →
      (∀ i, i ∈ is → ∀ x, x ∈ i.uses → x ∈ U) →
      ExecSpec U (∃ i, i ∈ is ∧ i.dst ∉ U ∧ i.nonTrapping = false)
        (execInsts e1 is) (execInsts e2 (is.filter fun i => U.contains i.dst)) := by
  intro is
  induction is with
  | nil =>
    intro e1 e2 h _
    exact ⟨e2, rfl, h⟩
  | cons i is ih =>
    intro e1 e2 h hu
    have rest : ∀ a b, Agree U a b →
        ExecSpec U (∃ j, j ∈ i :: is ∧ j.dst ∉ U ∧ j.nonTrapping = false)
          (execInsts a is) (execInsts b (is.filter fun i => U.contains i.dst)) :=
      fun a b hab => (ih a b hab fun j hj => hu j (List.mem_cons_of_mem _ hj)).mono
        fun ⟨j, hj, hd⟩ => ⟨j, List.mem_cons_of_mem _ hj, hd⟩
    by_cases hd : i.dst ∈ U
    · -- live instruction: executed on both sides, computing the same value
      have hc : U.contains i.dst = true := by simpa using hd
      simp only [List.filter, hc, execInsts, stepInst_eq, ← i.eval_agree h (hu i List.mem_cons_self)]
      cases i.eval e1 with
      | none => trivial
      | some r =>
        cases r with
        | none => exact Or.inl rfl
        | some v => exact rest _ _ (h.set _ v)
    · -- dead instruction: executed on the left only, where it writes a variable nobody reads
      have hc : U.contains i.dst = false := by simpa using hd
      simp only [List.filter, hc, execInsts, stepInst_eq]
      cases hv : i.eval e1 with
      | none => trivial
      | some r =>
        cases r with
        | none => exact Or.inr ⟨i, List.mem_cons_self, hd, Inst.eval_trap hv⟩
        | some v => exact rest _ _ (h.set_left hd v)

def Bad (f : Func) : Prop :=
  ∃ b, b ∈ f.blocks ∧ ∃ i, i ∈ b.insts ∧ isDead f i = true ∧ i.nonTrapping = false

theorem mem_usedVars_of_inst {f : Func} {b : Block} (hb : b ∈ f.blocks) {i : Inst} (hi : i ∈ b.insts)
    {x : Var} (hx : x ∈ i.uses) : x ∈ usedVars f :=
  List.mem_flatMap.2 ⟨b, hb, List.mem_append_left _ (List.mem_flatMap.2 ⟨i, hi, hx⟩)⟩

theorem mem_usedVars_of_term {f : Func} {b : Block} (hb : b ∈ f.blocks)
    {x : Var} (hx : x ∈ b.term.uses) : x ∈ usedVars f :=
  List.mem_flatMap.2 ⟨b, hb, List.mem_append_right _ hx⟩

theorem not_isDead (f : Func) (i : Inst) : (!isDead f i) = (usedVars f).contains i.dst := by
  simp [isDead]

theorem findBlock_dceOnce (f : Func) (l : Label) :
    findBlock (dceOnce f).blocks l =
      (findBlock f.blocks l).map fun b => { b with insts := b.insts.filter fun i => !isDead f i } :=
  findBlock_map (fun b => { b with insts := b.insts.filter fun i => !isDead f i }) (fun _ => rfl) f.blocks l

theorem runFrom_dceOnce (f : Func) :
    ∀ (n : Nat) (e1 e2 : Env) (l : Label) (vals : List Val), Agree (usedVars f) e1 e2 →
      runFrom f n e1 l vals = .stuck ∨ (runFrom f n e1 l vals = .trap ∧ Bad f) ∨
        runFrom (dceOnce f) n e2 l vals = runFrom f n e1 l vals := by
  intro n
  induction n with
  | zero => intro e1 e2 l vals _; exact Or.inr (Or.inr rfl)
  | succ n ih =>
    intro e1 e2 l vals h
    rw [runFrom_succ, runFrom_succ, findBlock_dceOnce]
    cases hfb : findBlock f.blocks l with
    | none => exact Or.inl rfl
    | some b =>
      have hbm := (findBlock_some hfb).1
      simp only [Option.map, execBlock, not_isDead]
      cases hb1 : bindParams e1 b.params vals with
      | none => exact Or.inl rfl
      | some a1 =>
        obtain ⟨a2, hb2, hbp⟩ := bindParams_agree b.params vals e1 e2 a1 h hb1
        rw [hb2]
        dsimp only
        have hex := execInsts_dce (usedVars f) b.insts a1 a2 hbp fun i hi x hx => mem_usedVars_of_inst hbm hi hx
        cases hx1 : execInsts a1 b.insts with
        | stuck => exact Or.inl rfl
        | trap =>
          rw [hx1] at hex
          rcases hex with t | ⟨i, hi, hid, hin⟩
          · rw [t]; exact Or.inr (Or.inr rfl)
          · exact Or.inr (Or.inl ⟨rfl, b, hbm, i, hi, by simpa [isDead] using hid, hin⟩)
        | ok c1 =>
          rw [hx1] at hex
          obtain ⟨c2, hc2, hagr⟩ := hex
          rw [hc2]
          dsimp only
          rw [← stepTerm_agree hagr b.term fun x hx => mem_usedVars_of_term hbm hx]
          cases stepTerm c1 b.term with
          | stuck => exact Or.inl rfl
          | done v => exact Or.inr (Or.inr rfl)
          | jump l' vals' => exact ih c1 c2 l' vals' hagr

theorem run_dceOnce (f : Func) (args : List Val) (fuel : Nat) :
    run f args fuel = .stuck ∨ (run f args fuel = .trap ∧ Bad f) ∨
      run (dceOnce f) args fuel = run f args fuel :=
  runFrom_dceOnce f fuel Env.empty Env.empty f.entry args (Agree.refl _ _)

end SwayVerif.MiniIR
