import SwayVerif.Model.Cache
/-!
What the cache protocol of C26 rests on. The two up-to-date checks are one recursion, `upToDateG`, over
the recorded dependencies: more fuel never changes an answer, and a rank that decreases along the
dependencies makes the fuel enough. An accepted entry passes the local test at every module reachable
from it (`upToDateG_accept_reach`), and where `file_versions` marks every stale typed module with a newer
version (`Covers`) a module that passes the test is not stale. A compilation is a parse pass, which keeps
a typed module or drops it (`TypedSub`), then a type-check pass, which keeps it or rebuilds it from the
present text (`TypedStep`). Both relations are preorders carried through the folds over dependencies
(`foldl_rel`), neither makes a module stale, and after the type-check pass nothing reachable from its
root is stale (`tyTree_sound`). The last section: the association lists the driver runs compute the same.
-/
namespace SwayVerif.Cache

/-! ## `allDeps` -/

theorem allDeps_true_iff (f : Path → Option Bool) (ds : List Path) :
    allDeps f ds = some true ↔ ∀ d ∈ ds, f d = some true := by
  induction ds with
  | nil => simp [allDeps]
  | cons d ds ih =>
    simp only [allDeps, List.mem_cons, forall_eq_or_imp]
    cases hd : f d with
    | none => simp
    | some b => cases b <;> simp [ih]

theorem allDeps_isSome (f : Path → Option Bool) (ds : List Path)
    (h : ∀ d ∈ ds, (f d).isSome = true) : (allDeps f ds).isSome = true := by
  induction ds with
  | nil => simp [allDeps]
  | cons d ds ih =>
    have hd := h d (by simp)
    simp only [allDeps]
    cases hfd : f d with
    | none => simp [hfd] at hd
    | some b =>
      cases b
      · simp
      · exact ih (fun x hx => h x (by simp [hx]))

theorem allDeps_congr_some {f g : Path → Option Bool} {ds : List Path} {b : Bool}
    (h : ∀ d ∈ ds, ∀ b', f d = some b' → g d = some b') :
    allDeps f ds = some b → allDeps g ds = some b := by
  induction ds with
  | nil => simp [allDeps]
  | cons d ds ih =>
    simp only [allDeps]
    cases hfd : f d with
    | none => simp
    | some b' =>
      rw [h d (by simp) b' hfd]
      cases b'
      · exact id
      · exact ih (fun x hx => h x (by simp [hx]))

/-! ## Fuel: more is the same, and a rank on the dependency relation makes it enough -/

theorem upToDateG_succ (chk : Path → Entry → Bool) (c : Cache) (p : Path) :
    (∀ n, upToDateG chk (n + 1) c p = some false) ∨
    ∃ e, c p = some e ∧ chk p e = true ∧
      ∀ n, upToDateG chk (n + 1) c p = allDeps (upToDateG chk n c) e.deps := by
  cases hc : c p with
  | none => exact .inl fun n => by simp only [upToDateG, hc]
  | some e =>
    cases hk : chk p e with
    | false => exact .inl fun n => by simp [upToDateG, hc, hk]
    | true => exact .inr ⟨e, rfl, hk, fun n => by simp only [upToDateG, hc, hk, if_true]⟩

theorem upToDateG_mono (chk : Path → Entry → Bool) (c : Cache) :
    ∀ (n : Nat) (p : Path) (b : Bool), upToDateG chk n c p = some b → upToDateG chk (n + 1) c p = some b := by
  intro n
  induction n with
  | zero => intro p b h; cases h
  | succ n ih =>
    intro p b h
    rcases upToDateG_succ chk c p with hf | ⟨e, _, _, hs⟩
    · rw [hf] at h ⊢; exact h
    · rw [hs] at h ⊢; exact allDeps_congr_some (fun d _ b' hb => ih d b' hb) h

theorem upToDateG_mono_le (chk : Path → Entry → Bool) (c : Cache) {n m : Nat} (hnm : n ≤ m)
    {p : Path} {b : Bool} (h : upToDateG chk n c p = some b) : upToDateG chk m c p = some b := by
  induction hnm with
  | refl => exact h
  | step _ ih => exact upToDateG_mono chk c _ p b ih

/-- The dependency relation recorded in the cache decreases a rank: no cycles. -/
def Ranked (rank : Path → Nat) (c : Cache) : Prop :=
  ∀ p e, c p = some e → ∀ d ∈ e.deps, rank d < rank p

theorem upToDateG_isSome (chk : Path → Entry → Bool) (c : Cache) (rank : Path → Nat) (hr : Ranked rank c) :
    ∀ (n : Nat) (p : Path), rank p < n → (upToDateG chk n c p).isSome = true := by
  intro n
  induction n with
  | zero => intro p h; omega
  | succ n ih =>
    intro p h
    rcases upToDateG_succ chk c p with hf | ⟨e, he, _, hs⟩
    · rw [hf]; rfl
    · rw [hs]
      exact allDeps_isSome _ _ fun d hd => ih d (by have := hr p e he d hd; omega)

/-! ## An accepted entry: the local test holds on everything below it -/

theorem upToDateG_accept (chk : Path → Entry → Bool) (c : Cache) :
    ∀ (n : Nat) (p : Path), upToDateG chk n c p = some true →
      ∃ e, c p = some e ∧ chk p e = true ∧ ∀ d ∈ e.deps, upToDateG chk n c d = some true := by
  intro n p h
  cases n with
  | zero => cases h
  | succ n =>
    rcases upToDateG_succ chk c p with hf | ⟨e, he, hk, hs⟩
    · rw [hf] at h; cases h
    · rw [hs] at h
      exact ⟨e, he, hk, fun d hd => upToDateG_mono chk c n d true ((allDeps_true_iff _ _).1 h d hd)⟩

theorem upToDateG_accept_reach (chk : Path → Entry → Bool) (c : Cache) (n : Nat) {p q : Path}
    (hq : Reach c p q) : upToDateG chk n c p = some true → ∃ e, c q = some e ∧ chk q e = true := by
  induction hq with
  | refl p =>
    intro h
    obtain ⟨e, he, hk, _⟩ := upToDateG_accept chk c n p h
    exact ⟨e, he, hk⟩
  | step hp hd _ ih =>
    intro h
    obtain ⟨e', he', _, hall⟩ := upToDateG_accept chk c n _ h
    rw [hp] at he'
    cases he'
    exact ih (hall _ hd)

/-! ## Staleness and the version test -/

/-- `fv` marks every module whose typed entry is stale with a version newer than the one recorded. -/
def Covers (disk : Disk) (c : Cache) (fv : FV) : Prop :=
  ∀ p e t, c p = some e → e.typed = some t → t.snap p ≠ disk p →
    ∃ v, fv p = some (some v) ∧ ∀ tv, t.ver = some tv → tv < v

theorem tyChk_not_stale {disk : Disk} {c : Cache} {fv : FV} (hc : Covers disk c fv)
    {q : Path} {e : Entry} (he : c q = some e) (hk : tyChk fv q e = true) : ¬ Stale disk c q := by
  rintro ⟨e', t, he', ht, hne⟩
  rw [he] at he'
  cases he'
  obtain ⟨v, hv, hlt⟩ := hc q e t he ht hne
  simp only [tyChk, ht, verOk, hv] at hk
  cases htv : t.ver with
  | none => simp [htv] at hk
  | some tv =>
    have := hlt tv htv
    simp [htv] at hk
    omega

theorem joinV_eq_some {o : Option (Option Nat)} {v : Nat} (h : joinV o = some v) : o = some (some v) := by
  rcases o with _ | _ | w
  · cases h
  · cases h
  · cases h; rfl

/-! ## One type-check pass (`tyTree`) -/

theorem setTyped_self (c : Cache) (p : Path) (t : Typed) :
    setTyped c p t p = (c p).map fun e => { e with typed := some t } := if_pos rfl

theorem setTyped_of_ne (c : Cache) (p : Path) (t : Typed) {q : Path} (h : q ≠ p) : setTyped c p t q = c q :=
  if_neg h

theorem setTyped_deps (c : Cache) (p : Path) (t : Typed) (q : Path) :
    ((setTyped c p t) q).map (·.deps) = (c q).map (·.deps) := by
  by_cases h : q = p
  · subst h; rw [setTyped_self]; cases c q <;> rfl
  · rw [setTyped_of_ne c p t h]

def TypedStep (disk : Disk) (fv : FV) (c c' : Cache) : Prop :=
  ∀ q, c' q = c q ∨
    ∃ e t, c q = some e ∧ c' q = some { e with typed := some t } ∧ t.snap = disk ∧ t.ver = joinV (fv q)

theorem TypedStep.refl (disk : Disk) (fv : FV) (c : Cache) : TypedStep disk fv c c := fun _ => Or.inl rfl

theorem TypedStep.trans {disk : Disk} {fv : FV} {c₁ c₂ c₃ : Cache}
    (h₁ : TypedStep disk fv c₁ c₂) (h₂ : TypedStep disk fv c₂ c₃) : TypedStep disk fv c₁ c₃ := by
  intro q
  rcases h₂ q with h | ⟨e, t, he, he', hs⟩
  · rcases h₁ q with h' | ⟨e, t, he, he', hs⟩
    · exact Or.inl (h.trans h')
    · exact Or.inr ⟨e, t, he, by rw [h, he'], hs⟩
  · rcases h₁ q with h' | ⟨e₀, t₀, he₀, he₀', _⟩
    · exact Or.inr ⟨e, t, by rw [← h', he], he', hs⟩
    · rw [he₀'] at he
      cases he
      exact Or.inr ⟨e₀, t, he₀, by rw [he'], hs⟩

theorem TypedStep.setTyped (disk : Disk) (fv : FV) (c : Cache) (p : Path) :
    TypedStep disk fv c (setTyped c p { ver := joinV (fv p), snap := disk }) := by
  intro q
  by_cases h : q = p
  · subst h
    rw [setTyped_self]
    cases c q with
    | none => exact .inl rfl
    | some e => exact .inr ⟨e, _, rfl, rfl, rfl, rfl⟩
  · exact .inl (setTyped_of_ne c p _ h)

theorem TypedStep.deps {disk : Disk} {fv : FV} {c c' : Cache} (h : TypedStep disk fv c c') (q : Path) :
    (c' q).map (·.deps) = (c q).map (·.deps) := by
  rcases h q with h | ⟨e, t, he, he', _⟩
  · rw [h]
  · rw [he, he']; rfl

theorem TypedStep.typed_some {disk : Disk} {fv : FV} {c c' : Cache} (h : TypedStep disk fv c c') {q : Path}
    {e' : Entry} {t' : Typed} (he' : c' q = some e') (ht' : e'.typed = some t') :
    (∃ e, c q = some e ∧ e.typed = some t') ∨ (t'.snap = disk ∧ t'.ver = joinV (fv q)) := by
  rcases h q with h | ⟨e, t, _, he'', hs⟩
  · exact .inl ⟨e', h ▸ he', ht'⟩
  · rw [he''] at he'
    cases he'
    cases ht'
    exact .inr hs

theorem TypedStep.stale {disk : Disk} {fv : FV} {c c' : Cache} (h : TypedStep disk fv c c') {q : Path}
    (hq : Stale disk c' q) : Stale disk c q := by
  obtain ⟨e', t', he', ht', hne⟩ := hq
  rcases h.typed_some he' ht' with ⟨e, he, ht⟩ | ⟨hs, _⟩
  · exact ⟨e, t', he, ht, hne⟩
  · exact absurd (congrFun hs q) hne

theorem TypedStep.covers {disk : Disk} {c c' : Cache} {fv fv' : FV} (h : TypedStep disk fv' c c')
    (hc : Covers disk c fv) : Covers disk c' fv := by
  intro p e' t' he' ht' hne
  rcases h.typed_some he' ht' with ⟨e, he, ht⟩ | ⟨hs, _⟩
  · exact hc p e t' he ht hne
  · exact absurd (congrFun hs p) hne

theorem Reach.of_deps {c c' : Cache} (h : ∀ q, (c q).map (·.deps) = (c' q).map (·.deps)) {p q : Path}
    (hq : Reach c p q) : Reach c' p q := by
  induction hq with
  | refl p => exact Reach.refl p
  | @step p d q e hp hd _ ih =>
    obtain ⟨e', he', hdeps⟩ := Option.map_eq_some_iff.1 ((h p).symm.trans (congrArg _ hp))
    exact Reach.step he' (hdeps ▸ hd) ih

theorem Ranked.of_deps {c c' : Cache} (h : ∀ q, (c q).map (·.deps) = (c' q).map (·.deps)) {rank : Path → Nat}
    (hr : Ranked rank c) : Ranked rank c' := by
  intro p e' he' d hd
  obtain ⟨e, he, hdeps⟩ := Option.map_eq_some_iff.1 ((h p).trans (congrArg _ he'))
  exact hr p e he d (hdeps ▸ hd)

theorem foldl_rel {α β : Type} {R : α → α → Prop} (hrefl : ∀ a, R a a)
    (htrans : ∀ {a b c}, R a b → R b c → R a c) {f : α → β → α} (h : ∀ a b, R a (f a b)) (l : List β) (a : α) :
    R a (l.foldl f a) := by
  induction l generalizing a with
  | nil => exact hrefl a
  | cons b l ih => exact htrans (h a b) (ih _)

theorem tyTree_step (F : Nat) (disk : Disk) (fv : FV) :
    ∀ (n : Nat) (c : Cache) (p : Path), TypedStep disk fv c (tyTree F disk fv n c p) := by
  intro n
  induction n with
  | zero => intro c p; exact TypedStep.refl disk fv c
  | succ n ih =>
    intro c p
    rw [tyTree]
    split
    · exact TypedStep.refl disk fv c
    · cases hc : c p with
      | none => exact TypedStep.refl disk fv c
      | some e =>
        exact (foldl_rel (TypedStep.refl disk fv) TypedStep.trans ih e.deps c).trans
          (TypedStep.setTyped disk fv _ p)

theorem tyTree_fold_step (F : Nat) (disk : Disk) (fv : FV) (n : Nat) (ds : List Path) (c : Cache) :
    TypedStep disk fv c (ds.foldl (tyTree F disk fv n) c) :=
  foldl_rel (TypedStep.refl disk fv) TypedStep.trans (tyTree_step F disk fv n) ds c

theorem setTyped_not_stale (disk : Disk) (c : Cache) (p : Path) (v : Option Nat) :
    ¬ Stale disk (setTyped c p ⟨v, disk⟩) p := by
  rintro ⟨e', t', he', ht', hne⟩
  obtain ⟨e, _, rfl⟩ := Option.map_eq_some_iff.1 ((setTyped_self c p _).symm.trans he')
  cases ht'
  exact hne rfl

theorem tyTree_sound (F : Nat) (disk : Disk) (fv : FV) (rank : Path → Nat) :
    ∀ (n : Nat) (c : Cache) (p : Path), Ranked rank c → Covers disk c fv → rank p < n →
      ∀ q, Reach c p q → ¬ Stale disk (tyTree F disk fv n c p) q := by
  intro n
  induction n with
  | zero => intro c p _ _ h; omega
  | succ n ih =>
    intro c p hr hcov hn q hq
    rw [tyTree]
    split
    · -- accepted: nothing below is stale
      rename_i hacc
      obtain ⟨e, he, hk⟩ := upToDateG_accept_reach (tyChk fv) c F hq hacc
      exact tyChk_not_stale hcov he hk
    · cases hc : c p with
      | none =>
        -- no entry: `p` reaches only itself and has no typed module
        simp only []
        cases hq with
        | refl => rintro ⟨e, t, he, _⟩; rw [hc] at he; cases he
        | step hp _ _ => rw [hc] at hp; cases hp
      | some e =>
        simp only []
        cases hq with
        | refl => exact setTyped_not_stale disk _ p _
        | @step _ d _ _ hp hd hdq =>
          rw [hc] at hp
          cases hp
          refine mt (TypedStep.setTyped disk fv _ p).stale ?_
          -- `q` is below a dependency `d`: the passes before `d` keep what the pass from `d` needs,
          -- that pass leaves `q` not stale, the passes after it keep it so
          obtain ⟨ds₁, ds₂, hds⟩ := List.append_of_mem hd
          rw [hds, List.foldl_append, List.foldl_cons]
          have hs := tyTree_fold_step F disk fv n ds₁ c
          have hlt : rank d < n := by have := hr p e hc d hd; omega
          exact mt (tyTree_fold_step F disk fv n ds₂ _).stale
            (ih _ d (Ranked.of_deps (fun q => (hs.deps q).symm) hr) (hs.covers hcov) hlt q
              (Reach.of_deps (fun q => (hs.deps q).symm) hdq))

/-! ## The parse pass keeps a typed module or drops it -/

def TypedSub (c' c : Cache) : Prop :=
  ∀ q, (c' q).bind (·.typed) = (c q).bind (·.typed) ∨ (c' q).bind (·.typed) = none

theorem TypedSub.refl (c : Cache) : TypedSub c c := fun _ => Or.inl rfl

theorem TypedSub.trans {c₁ c₂ c₃ : Cache} (h₁ : TypedSub c₂ c₁) (h₂ : TypedSub c₃ c₂) : TypedSub c₃ c₁ := by
  intro q
  rcases h₂ q with h | h
  · rcases h₁ q with h' | h'
    · exact Or.inl (h.trans h')
    · exact Or.inr (h.trans h')
  · exact Or.inr h

theorem parseMod_self (depsOf : Path → Content → List Path) (disk : Disk) (fv : FV) (c : Cache) (p : Path) :
    parseMod depsOf disk fv c p p = some
      { hash := disk p, deps := depsOf p (disk p), pver := joinV (fv p), typed := keepTyped (c p) (disk p) } :=
  if_pos rfl

theorem parseMod_of_ne (depsOf : Path → Content → List Path) (disk : Disk) (fv : FV) (c : Cache) {p q : Path}
    (h : q ≠ p) : parseMod depsOf disk fv c p q = c q :=
  if_neg h

theorem keepTyped_sub (old : Option Entry) (h : Content) :
    keepTyped old h = old.bind (·.typed) ∨ keepTyped old h = none := by
  cases old with
  | none => exact .inr rfl
  | some e =>
    by_cases hh : e.hash = h
    · exact .inl (if_pos hh)
    · exact .inr (if_neg hh)

theorem parseMod_sub (depsOf : Path → Content → List Path) (disk : Disk) (fv : FV) (c : Cache) (p : Path) :
    TypedSub (parseMod depsOf disk fv c p) c := by
  intro q
  by_cases h : q = p
  · subst h
    rw [parseMod_self]
    exact keepTyped_sub (c q) (disk q)
  · exact .inl (by rw [parseMod_of_ne depsOf disk fv c h])

theorem parseTree_rel (depsOf : Path → Content → List Path) (disk : Disk) (fv : FV) {R : Cache → Cache → Prop}
    (hrefl : ∀ c, R c c) (htrans : ∀ {a b c}, R a b → R b c → R a c)
    (hmod : ∀ c p, R c (parseMod depsOf disk fv c p)) :
    ∀ (n : Nat) (c : Cache) (p : Path), R c (parseTree depsOf disk fv n c p) := by
  intro n
  induction n with
  | zero => intro c p; exact hrefl c
  | succ n ih => intro c p; exact htrans (foldl_rel hrefl htrans ih _ c) (hmod _ p)

theorem parseTree_sub (depsOf : Path → Content → List Path) (disk : Disk) (fv : FV) (n : Nat) (c : Cache) (p : Path) :
    TypedSub (parseTree depsOf disk fv n c p) c :=
  parseTree_rel depsOf disk fv (R := fun c c' => TypedSub c' c) TypedSub.refl TypedSub.trans
    (parseMod_sub depsOf disk fv) n c p

theorem TypedSub.typed_some {c' c : Cache} (h : TypedSub c' c) {q : Path} {e' : Entry} {t : Typed}
    (he' : c' q = some e') (ht : e'.typed = some t) : ∃ e, c q = some e ∧ e.typed = some t := by
  have hb : (c' q).bind (·.typed) = some t := by simp [he', ht]
  rcases h q with h | h
  · rw [h] at hb
    cases hc : c q with
    | none => simp [hc] at hb
    | some e => exact ⟨e, rfl, by simpa [hc] using hb⟩
  · rw [h] at hb; cases hb

theorem TypedSub.stale {disk : Disk} {c' c : Cache} (h : TypedSub c' c) {q : Path}
    (hs : Stale disk c' q) : Stale disk c q := by
  obtain ⟨e', t, he', ht, hne⟩ := hs
  obtain ⟨e, he, ht'⟩ := h.typed_some he' ht
  exact ⟨e, t, he, ht', hne⟩

theorem TypedSub.covers {disk : Disk} {c' c : Cache} {fv : FV} (h : TypedSub c' c)
    (hc : Covers disk c fv) : Covers disk c' fv := by
  intro p e' t he' ht hne
  obtain ⟨e, he, ht'⟩ := h.typed_some he' ht
  exact hc p e t he ht' hne

theorem parseMod_ranked (depsOf : Path → Content → List Path) (disk : Disk) (fv : FV) (rank : Path → Nat)
    (hd : ∀ p x d, d ∈ depsOf p x → rank d < rank p) {c : Cache} (hr : Ranked rank c) (p : Path) :
    Ranked rank (parseMod depsOf disk fv c p) := by
  intro q e he d hdd
  by_cases h : q = p
  · subst h
    cases (parseMod_self depsOf disk fv c q).symm.trans he
    exact hd _ _ _ hdd
  · exact hr q e ((parseMod_of_ne depsOf disk fv c h).symm.trans he) d hdd

theorem parseTree_ranked (depsOf : Path → Content → List Path) (disk : Disk) (fv : FV) (rank : Path → Nat)
    (hd : ∀ p x d, d ∈ depsOf p x → rank d < rank p) (n : Nat) (c : Cache) (p : Path) :
    Ranked rank c → Ranked rank (parseTree depsOf disk fv n c p) :=
  parseTree_rel depsOf disk fv (R := fun c c' => Ranked rank c → Ranked rank c') (fun _ => id)
    (fun h₁ h₂ => h₂ ∘ h₁) (fun _ p hr => parseMod_ranked depsOf disk fv rank hd hr p) n c p

/-! ## The list versions the driver executes compute the function versions -/

theorem ofList_cons {α : Type} (k : Nat) (v : α) (l : List (Nat × α)) (q : Nat) :
    ofList ((k, v) :: l) q = if q = k then some v else ofList l q := by
  simp [ofList, lookupA]

theorem ofList_parseModL (depsOf : Path → Content → List Path) (disk : Disk) (fv : FV) (c : CacheL) (p : Path) :
    ofList (parseModL depsOf disk fv c p) = parseMod depsOf disk fv (ofList c) p := by
  funext q
  rw [parseModL, ofList_cons]
  rfl

theorem ofList_parseTreeL (depsOf : Path → Content → List Path) (disk : Disk) (fv : FV) :
    ∀ (n : Nat) (c : CacheL) (p : Path),
      ofList (parseTreeL depsOf disk fv n c p) = parseTree depsOf disk fv n (ofList c) p := by
  intro n
  induction n with
  | zero => intro c p; rfl
  | succ n ih =>
    intro c p
    rw [parseTreeL, parseTree, ofList_parseModL, List.foldl_hom ofList fun c d => (ih c d).symm]

theorem ofList_setTypedL (c : CacheL) (p : Path) (t : Typed) :
    ofList (setTypedL c p t) = setTyped (ofList c) p t := by
  funext q
  unfold setTypedL
  by_cases h : q = p
  · subst h
    rw [setTyped_self]
    show _ = (lookupA q c).map _
    cases hc : lookupA q c with
    | none => exact hc
    | some e => exact (ofList_cons q _ c q).trans (if_pos rfl)
  · rw [setTyped_of_ne _ p t h]
    cases lookupA p c with
    | none => rfl
    | some e => exact (ofList_cons p _ c q).trans (if_neg h)

theorem ofList_tyTreeL (F : Nat) (disk : Disk) (fv : FV) :
    ∀ (n : Nat) (c : CacheL) (p : Path),
      ofList (tyTreeL F disk fv n c p) = tyTree F disk fv n (ofList c) p := by
  intro n
  induction n with
  | zero => intro c p; rfl
  | succ n ih =>
    intro c p
    rw [tyTreeL, tyTree]
    split
    · rfl
    · show ofList (match ofList c p with | none => c | some e => _) = _
      cases ofList c p with
      | none => rfl
      | some e =>
        show ofList (setTypedL _ p _) = setTyped _ p _
        rw [ofList_setTypedL, List.foldl_hom ofList fun c d => (ih c d).symm]

theorem runJobL_eq (depsOf : Path → Content → List Path) (fsok : Disk → Path → Entry → Bool) (F : Nat) (root : Path)
    (disk : Disk) (c : CacheL) (fv : FV) (prog : Option Disk) (nv : Nat) :
    match runJob depsOf fsok F root ⟨disk, ofList c, prog, nv⟩ fv with
    | .reused => runJobL depsOf fsok F root disk c fv = none
    | .compiled c' => ∃ cl, runJobL depsOf fsok F root disk c fv = some cl ∧ ofList cl = c' := by
  unfold runJob runJobL
  by_cases h : parseUpToDate (fsok disk) F (ofList c) fv root = some true
  · simp [h]
  · simp only [h, if_false]
    exact ⟨_, rfl, by rw [ofList_tyTreeL, ofList_parseTreeL]⟩

end SwayVerif.Cache
