import SwayVerif.Lemmas.AsmLive
/-!
The register allocator of `SwayVerif.Asm` after liveness. `Conflict op lo v w` is the situation every
stage must respect: `v` is defined at `op` while `w` is live after it. `interfAt` adds exactly the
edges of the conflicts (`mem_interfAt`); the coalescing loop keeps the ends of every original edge
apart and adjacent under the renaming (`CoInv`); assignment keeps the users of one pool register
pairwise non-adjacent (`PoolInv`); spill slots are positions in a duplicate-free sorted list.
-/
namespace SwayVerif.Asm

/-! ### edges -/

theorem mem_addEdge {g : Graph} {a b : Reg} {e : Reg × Reg} :
    e ∈ addEdge g a b ↔ e ∈ g ∨ e = (a, b) := mem_ite_append

theorem mem_addEdgesFrom {v : Reg} {ok : Reg → Bool} {g : Graph} {lo : RSet} {e : Reg × Reg} :
    e ∈ addEdgesFrom v ok g lo ↔
      e ∈ g ∨ ∃ b ∈ lo, (b.isVirt = true ∧ ok b = true) ∧ e = (v, b) := by
  unfold addEdgesFrom
  refine mem_foldl_of _ (fun b e => (b.isVirt = true ∧ ok b = true) ∧ e = (v, b)) ?_ lo g e
  intro g b e
  rw [← Bool.and_eq_true]
  by_cases h : (b.isVirt && ok b) = true
  · rw [if_pos h, mem_addEdge, and_iff_right h]
  · rw [if_neg h]
    exact ⟨.inl, fun h' => h'.elim id fun h' => absurd h'.1 h⟩

theorem moveOf?_eq_some {op : AOp} {v c : Reg} :
    moveOf? op = some (v, c) ↔ op.kind = .move ∧ op.defs = [v] ∧ op.uses = [c] := by
  unfold moveOf?
  split
  next hk hd hu =>
    simp only [Option.some.injEq, Prod.mk.injEq, hk, hd, hu, List.cons.injEq, and_true, true_and]
  next h =>
    simp only [reduceCtorEq, false_iff]
    exact fun ⟨a, b, c⟩ => h _ _ a b c

structure Conflict (op : AOp) (lo : RSet) (v w : Reg) : Prop where
  isDef : v ∈ op.defs
  virtDef : v.isVirt = true
  live : w ∈ lo
  virtLive : w.isVirt = true
  ne : w ≠ v
  notMove : moveOf? op ≠ some (v, w)

theorem conflict_iff {op : AOp} {lo : RSet} {v w : Reg} : Conflict op lo v w ↔
    v ∈ op.defs ∧ v.isVirt = true ∧ w ∈ lo ∧ w.isVirt = true ∧ w ≠ v ∧ moveOf? op ≠ some (v, w) :=
  ⟨fun ⟨a, b, c, d, e, f⟩ => ⟨a, b, c, d, e, f⟩, fun ⟨a, b, c, d, e, f⟩ => ⟨a, b, c, d, e, f⟩⟩

/-- `OpInterfD`, `OpInterf` and `NoClobberAt` quantify over the conflicts at `op` in this form. -/
theorem forall_conflict_iff {op : AOp} {lo : RSet} {p : Reg → Reg → Prop} :
    (∀ v ∈ op.defs, v.isVirt = true → ∀ w ∈ lo, w.isVirt = true → w ≠ v →
      moveOf? op ≠ some (v, w) → p v w) ↔ ∀ v w, Conflict op lo v w → p v w :=
  ⟨fun h v w c => h v c.isDef c.virtDef w c.live c.virtLive c.ne c.notMove,
    fun h v hv hvv w hw hwv hne hmv => h v w ⟨hv, hvv, hw, hwv, hne, hmv⟩⟩

theorem mem_interfAt {g : Graph} {op : AOp} {lo : RSet} {e : Reg × Reg} :
    e ∈ interfAt g op lo ↔ e ∈ g ∨ ∃ v w, Conflict op lo v w ∧ e = (v, w) := by
  unfold interfAt
  cases hm : moveOf? op with
  | some vc =>
    obtain ⟨v, c⟩ := vc
    obtain ⟨_, hd, _⟩ := moveOf?_eq_some.1 hm
    by_cases hv : v.isVirt = true
    · simp only [hv, if_true, mem_addEdgesFrom, conflict_iff, hd, hm, List.mem_singleton,
        Bool.and_eq_true, bne_iff_ne, ne_eq, Option.some.injEq, Prod.mk.injEq, not_and]
      refine or_congr_right ⟨?_, ?_⟩
      · rintro ⟨b, hb, ⟨hbv, hbc, hbv'⟩, he⟩
        exact ⟨v, b, ⟨rfl, hv, hb, hbv, hbv', fun _ h => hbc h.symm⟩, he⟩
      · rintro ⟨_, w, ⟨rfl, _, hw, hwv, hne, hc⟩, he⟩
        exact ⟨w, hw, ⟨hwv, fun h => hc rfl h.symm, hne⟩, he⟩
    · simp only [hv, Bool.false_eq_true, if_false]
      refine ⟨.inl, fun h => h.elim id fun ⟨v', w, cf, _⟩ => absurd ?_ hv⟩
      exact List.mem_singleton.1 (hd ▸ cf.isDef) ▸ cf.virtDef
  | none =>
    rw [mem_foldl_of (fun g v => if v.isVirt then addEdgesFrom v (fun b => b != v) g lo else g)
      (fun v e => v.isVirt = true ∧ ∃ b ∈ lo, b.isVirt = true ∧ b ≠ v ∧ e = (v, b))]
    · refine or_congr_right ⟨?_, ?_⟩
      · rintro ⟨v, hv, hvv, w, hw, hwv, hne, he⟩
        exact ⟨v, w, ⟨hv, hvv, hw, hwv, hne, hm ▸ nofun⟩, he⟩
      · rintro ⟨v, w, cf, he⟩
        exact ⟨v, cf.isDef, cf.virtDef, w, cf.live, cf.virtLive, cf.ne, he⟩
    · intro g v e
      by_cases hv : v.isVirt = true
      · simp only [hv, if_true, mem_addEdgesFrom, true_and, bne_iff_ne, ne_eq, and_assoc]
      · simp only [hv, Bool.false_eq_true, if_false, false_and, or_false]

theorem interferenceFrom_mono {g : Graph} {xs : List (AOp × RSet)} {e : Reg × Reg} (h : e ∈ g) :
    e ∈ interferenceFrom g xs := by
  induction xs generalizing g with
  | nil => exact h
  | cons x xs ih => exact ih (mem_interfAt.2 (Or.inl h))

def GraphOk (g : Graph) : Prop := ∀ a b, (a, b) ∈ g → a ≠ b ∧ a.isVirt = true ∧ b.isVirt = true

theorem interferenceFrom_ok {g : Graph} {xs : List (AOp × RSet)} (h : GraphOk g) :
    GraphOk (interferenceFrom g xs) := by
  induction xs generalizing g with
  | nil => exact h
  | cons x xs ih =>
    refine ih fun a b hab => ?_
    rcases mem_interfAt.1 hab with h' | ⟨v, w, cf, he⟩
    · exact h a b h'
    · cases he
      exact ⟨cf.ne.symm, cf.virtDef, cf.virtLive⟩

/-- Directed form of completeness at one op: a def and a different live-out register are joined,
except for the two ends of the MOVE itself. -/
def OpInterfD (g : Graph) (op : AOp) (lo : RSet) : Prop :=
  ∀ v ∈ op.defs, v.isVirt = true → ∀ w ∈ lo, w.isVirt = true → w ≠ v →
    moveOf? op ≠ some (v, w) → (v, w) ∈ g

theorem interferenceFrom_complete {g : Graph} {xs : List (AOp × RSet)} :
    ∀ x ∈ xs, OpInterfD (interferenceFrom g xs) x.1 x.2 := by
  induction xs generalizing g with
  | nil => exact fun _ h => nomatch h
  | cons y xs ih =>
    intro x hx
    rcases List.mem_cons.1 hx with rfl | hx
    · refine forall_conflict_iff.2 fun v w cf => ?_
      show (v, w) ∈ interferenceFrom (interfAt g x.1 x.2) xs
      exact interferenceFrom_mono (mem_interfAt.2 (.inr ⟨v, w, cf, rfl⟩))
    · exact ih x hx

/-! ### undirected adjacency -/

theorem adj_iff {g : Graph} {a b : Reg} : adj g a b = true ↔ (a, b) ∈ g ∨ (b, a) ∈ g := by
  simp [adj]

theorem adj_comm {g : Graph} {a b : Reg} : adj g a b = adj g b a := by
  simp only [adj, Bool.or_comm]

theorem mem_nbrs {g : Graph} {n m : Reg} : m ∈ nbrs g n ↔ adj g n m = true := by
  simp only [nbrs, List.mem_append, List.mem_map, List.mem_filter, beq_iff_eq, adj_iff]
  constructor
  · rintro (⟨⟨a, b⟩, ⟨h, rfl⟩, rfl⟩ | ⟨⟨a, b⟩, ⟨h, rfl⟩, rfl⟩)
    · exact Or.inl h
    · exact Or.inr h
  · rintro (h | h)
    · exact Or.inl ⟨(n, m), ⟨h, rfl⟩, rfl⟩
    · exact Or.inr ⟨(m, n), ⟨h, rfl⟩, rfl⟩

def OpInterf (g : Graph) (op : AOp) (lo : RSet) : Prop :=
  ∀ v ∈ op.defs, v.isVirt = true → ∀ w ∈ lo, w.isVirt = true → w ≠ v →
    moveOf? op ≠ some (v, w) → adj g v w = true

def InterfComplete (xs : List (AOp × RSet)) (g : Graph) : Prop := ∀ x ∈ xs, OpInterf g x.1 x.2

/-! ### coalescing -/

theorem lookup_map_snd (m : RegMap) (f : Reg → Reg) (x : Reg) :
    (m.map fun e => (e.1, f e.2)).lookup x = (m.lookup x).map f := by
  induction m with
  | nil => rfl
  | cons e m ih =>
    obtain ⟨k, v⟩ := e
    simp only [List.map_cons, List.lookup_cons]
    cases x == k <;> simp [ih]

theorem rep_mergeMap {m : RegMap} {r1 r2 : Reg} (hroot : rep m r1 = r1) (x : Reg) :
    rep (mergeMap m r1 r2) x = if rep m x = r1 then r2 else rep m x := by
  unfold rep at hroot ⊢
  rw [mergeMap, List.lookup_cons, lookup_map_snd m (fun v => if v = r1 then r2 else v)]
  by_cases hx : x = r1
  · subst hx
    rw [beq_self_eq_true, hroot, if_pos rfl]; rfl
  · rw [beq_false_of_ne hx]
    cases m.lookup x with
    | none => exact (if_neg hx).symm
    | some v => rfl

structure CoInv (G0 : Graph) (st : CoState) : Prop where
  edges : ∀ a b, (a, b) ∈ G0 →
    rep st.map a ≠ rep st.map b ∧ adj st.graph (rep st.map a) (rep st.map b) = true
  idem : ∀ x, rep st.map (rep st.map x) = rep st.map x
  virt : ∀ x, (rep st.map x).isVirt = x.isVirt

theorem mergeFold_mono {r2 : Reg} {l : List Reg} {g : Graph} {e : Reg × Reg} (h : e ∈ g) :
    e ∈ l.foldl (fun g n => if (r2, n) ∈ g then g else addEdge g n r2) g := by
  induction l generalizing g with
  | nil => exact h
  | cons n l ih =>
    apply ih
    show e ∈ (if (r2, n) ∈ g then g else addEdge g n r2)
    split
    · exact h
    · exact mem_addEdge.2 (Or.inl h)

theorem mergeFold_adj {r2 : Reg} {l : List Reg} {g : Graph} :
    ∀ n ∈ l, adj (l.foldl (fun g n => if (r2, n) ∈ g then g else addEdge g n r2) g) r2 n = true := by
  induction l generalizing g with
  | nil => simp
  | cons m l ih =>
    intro n hn
    rcases List.mem_cons.1 hn with rfl | hn
    · simp only [List.foldl_cons]
      apply adj_iff.2
      split
      · exact Or.inl (mergeFold_mono (by assumption))
      · exact Or.inr (mergeFold_mono (mem_addEdge.2 (Or.inr rfl)))
    · exact ih n hn

theorem mem_mergeGraph_of_mem {g : Graph} {r1 r2 : Reg} {e : Reg × Reg} (h : e ∈ g)
    (h1 : e.1 ≠ r1) (h2 : e.2 ≠ r1) : e ∈ mergeGraph g r1 r2 := by
  unfold mergeGraph
  refine List.mem_filter.2 ⟨mergeFold_mono h, ?_⟩
  simp [h1, h2]

theorem adj_mergeGraph_of_adj {g : Graph} {r1 r2 a b : Reg} (h : adj g a b = true)
    (ha : a ≠ r1) (hb : b ≠ r1) : adj (mergeGraph g r1 r2) a b = true := by
  rcases adj_iff.1 h with h | h
  · exact adj_iff.2 (Or.inl (mem_mergeGraph_of_mem h ha hb))
  · exact adj_iff.2 (Or.inr (mem_mergeGraph_of_mem h hb ha))

theorem adj_mergeGraph_new {g : Graph} {r1 r2 n : Reg} (h : adj g r1 n = true)
    (hn : n ≠ r1) (h2 : r2 ≠ r1) : adj (mergeGraph g r1 r2) r2 n = true := by
  have hmem : n ∈ dedup (nbrs g r1) := mem_dedup.2 (mem_nbrs.2 h)
  have := mergeFold_adj (r2 := r2) (g := g) n hmem
  unfold mergeGraph
  rcases adj_iff.1 this with h' | h'
  · refine adj_iff.2 (Or.inl (List.mem_filter.2 ⟨h', ?_⟩)); simp [h2, hn]
  · refine adj_iff.2 (Or.inr (List.mem_filter.2 ⟨h', ?_⟩)); simp [h2, hn]

theorem coInv_merge {G0 : Graph} {st : CoState} (inv : CoInv G0 st) {x y : Reg}
    (hx : x.isVirt = true) (hy : y.isVirt = true)
    (hne : rep st.map x ≠ rep st.map y)
    (hadj : adj st.graph (rep st.map x) (rep st.map y) = false) :
    CoInv G0 { graph := mergeGraph st.graph (rep st.map x) (rep st.map y),
               map := mergeMap st.map (rep st.map x) (rep st.map y), kept := st.kept } := by
  have hroot := inv.idem x
  have h21 : rep st.map y ≠ rep st.map x := fun h => hne h.symm
  refine ⟨fun a b hab => ?_, fun z => ?_, fun z => ?_⟩
  · obtain ⟨hd, ha⟩ := inv.edges a b hab
    simp only [rep_mergeMap hroot]
    by_cases h1 : rep st.map a = rep st.map x
    · have hb1 : rep st.map b ≠ rep st.map x := fun h => hd (h1.trans h.symm)
      have hb2 : rep st.map b ≠ rep st.map y := by
        intro h; rw [h1, h] at ha; rw [ha] at hadj; cases hadj
      simp only [h1, if_true, hb1, if_false]
      refine ⟨fun h => hb2 h.symm, ?_⟩
      rw [h1] at ha
      exact adj_mergeGraph_new ha hb1 h21
    · by_cases h2 : rep st.map b = rep st.map x
      · have ha2 : rep st.map a ≠ rep st.map y := by
          intro h; rw [h2, h, adj_comm] at ha; rw [ha] at hadj; cases hadj
        simp only [h1, if_false, h2, if_true]
        refine ⟨ha2, ?_⟩
        rw [h2, adj_comm] at ha
        rw [adj_comm]
        exact adj_mergeGraph_new ha h1 h21
      · simp only [h1, if_false, h2]
        exact ⟨hd, adj_mergeGraph_of_adj ha h1 h2⟩
  · simp only [rep_mergeMap hroot]
    by_cases h1 : rep st.map z = rep st.map x
    · simp only [h1, if_true, inv.idem y, h21, if_false]
    · simp only [h1, if_false, inv.idem z]
  · simp only [rep_mergeMap hroot]
    by_cases h1 : rep st.map z = rep st.map x
    · simp only [h1, if_true]
      rw [inv.virt y, hy, ← inv.virt z, h1, inv.virt x, hx]
    · simp only [h1, if_false, inv.virt z]

theorem coalesceStep_cases (safe : Graph → Reg → Reg → Bool) (st : CoState) (x : AOp × RSet) :
    coalesceStep safe st x = st ∨ coalesceStep safe st x = { st with kept := x :: st.kept } ∨
    ∃ a b, rep st.map (.virt a) ≠ rep st.map (.virt b) ∧
      adj st.graph (rep st.map (.virt a)) (rep st.map (.virt b)) = false ∧
      coalesceStep safe st x =
        { graph := mergeGraph st.graph (rep st.map (.virt a)) (rep st.map (.virt b)),
          map := mergeMap st.map (rep st.map (.virt a)) (rep st.map (.virt b)), kept := st.kept } := by
  unfold coalesceStep
  split
  next a b _ =>
    by_cases hne : rep st.map (.virt a) = rep st.map (.virt b)
    · exact .inl (if_pos hne)
    · by_cases hcond : (adj st.graph (rep st.map (.virt a)) (rep st.map (.virt b)) ||
          !safe st.graph (rep st.map (.virt a)) (rep st.map (.virt b))) = true
      · exact .inr (.inl ((if_neg hne).trans (if_pos hcond)))
      · refine .inr (.inr ⟨a, b, hne, ?_, (if_neg hne).trans (if_neg hcond)⟩)
        rw [Bool.or_eq_true, not_or, Bool.not_eq_true] at hcond
        exact hcond.1
  · exact .inr (.inl rfl)

theorem coInv_foldl {safe} {G0 : Graph} (xs : List (AOp × RSet)) {st : CoState}
    (inv : CoInv G0 st) : CoInv G0 (xs.foldl (coalesceStep safe) st) := by
  induction xs generalizing st with
  | nil => exact inv
  | cons x xs ih =>
    refine ih ?_
    rcases coalesceStep_cases safe st x with h | h | ⟨a, b, hne, hadj, h⟩ <;> rw [h]
    · exact inv
    · exact ⟨inv.edges, inv.idem, inv.virt⟩
    · exact coInv_merge inv rfl rfl hne hadj

theorem coInv_coalesce {safe} {g : Graph} (hok : GraphOk g) (xs : List (AOp × RSet)) :
    CoInv g (xs.foldl (coalesceStep safe) { graph := g, map := [], kept := [] }) :=
  coInv_foldl xs
    ⟨fun a b hab => ⟨(hok a b hab).1, adj_iff.2 (.inl hab)⟩, fun _ => rfl, fun _ => rfl⟩

theorem kept_foldl_subset {safe} (xs : List (AOp × RSet)) {st : CoState} {y : AOp × RSet}
    (h : y ∈ (xs.foldl (coalesceStep safe) st).kept) : y ∈ st.kept ∨ y ∈ xs := by
  induction xs generalizing st with
  | nil => exact Or.inl h
  | cons x xs ih =>
    rcases ih h with h | h
    · rcases coalesceStep_cases safe st x with e | e | ⟨_, _, _, _, e⟩ <;> rw [e] at h
      · exact .inl h
      · exact (List.mem_cons.1 h).symm.imp_right fun e : y = x => e ▸ List.mem_cons_self
      · exact .inl h
    · exact Or.inr (List.mem_cons_of_mem _ h)

theorem mem_renameRegs {m : RegMap} {l : List Reg} {x : Reg} :
    x ∈ renameRegs m l ↔ ∃ y ∈ l, rep m y = x := by
  simp [renameRegs, mem_dedup]

theorem moveOf?_rename {m : RegMap} {op : AOp} {v w : Reg} (h : moveOf? op = some (v, w)) :
    moveOf? (renameOp m op) = some (rep m v, rep m w) := by
  obtain ⟨hk, hd, hu⟩ := moveOf?_eq_some.1 h
  exact moveOf?_eq_some.2 ⟨hk, by simp only [renameOp, renameRegs, hd]; rfl,
    by simp only [renameOp, renameRegs, hu]; rfl⟩

theorem opInterf_rename {G0 g : Graph} {m : RegMap} {op : AOp} {lo : RSet}
    (hedges : ∀ a b, (a, b) ∈ G0 → rep m a ≠ rep m b ∧ adj g (rep m a) (rep m b) = true)
    (hvirt : ∀ x, (rep m x).isVirt = x.isVirt)
    (h : OpInterf G0 op lo) : OpInterf g (renameOp m op) (renameRegs m lo) := by
  refine forall_conflict_iff.2 fun v' w' cf => ?_
  obtain ⟨v, hv, rfl⟩ := mem_renameRegs.1 cf.isDef
  obtain ⟨w, hw, rfl⟩ := mem_renameRegs.1 cf.live
  have cf' : Conflict op lo v w :=
    ⟨hv, hvirt v ▸ cf.virtDef, hw, hvirt w ▸ cf.virtLive, fun e => cf.ne (e ▸ rfl),
      fun e => cf.notMove (moveOf?_rename e)⟩
  rcases adj_iff.1 (forall_conflict_iff.1 h v w cf') with e | e
  · exact (hedges _ _ e).2
  · rw [adj_comm]; exact (hedges _ _ e).2

/-! ### assignment -/

def PoolInv (g : Graph) (pool : Pool) : Prop :=
  ∀ u ∈ pool, ∀ a ∈ u, ∀ b ∈ u, a ≠ b → adj g a b = false

/-- `firstFree` and `colourFrom` are searches of this form: the position, counted from `j`, of the
first element that satisfies `q` -/
theorem eq_findIdx?_of_eqns {α : Type} (q : α → Bool) (f : List α → Nat → Option Nat)
    (hnil : ∀ j, f [] j = none)
    (hcons : ∀ u p j, f (u :: p) j = if q u then some j else f p (j + 1)) (p : List α) (j : Nat) :
    f p j = (p.findIdx? q).map (· + j) := by
  induction p generalizing j with
  | nil => exact hnil j
  | cons u p ih =>
    rw [hcons, List.findIdx?_cons, ih]
    cases q u
    · simp only [Bool.false_eq_true, if_false, Option.map_map]
      exact congrArg (Option.map · _) (funext fun k => Nat.add_right_comm k j 1 ▸ rfl)
    · simp only [if_true, Option.map_some, Nat.zero_add]

theorem firstFree_eq (g : Graph) (n : Reg) (p : Pool) (j : Nat) :
    firstFree g n p j = (p.findIdx? (freeFor g n)).map (· + j) :=
  eq_findIdx?_of_eqns _ (firstFree g n) (fun _ => rfl) (fun _ _ _ => rfl) p j

theorem addAt_eq (p : Pool) (k : Nat) (r : Reg) : addAt p k r = p.modify k (ins · r) := by
  induction p generalizing k with
  | nil => rw [List.modify_nil]; rfl
  | cons u p ih =>
    cases k with
    | zero => rfl
    | succ k => rw [addAt, ih, List.modify_succ_cons]

theorem getElem?_addAt (p : Pool) (k : Nat) (r : Reg) (j : Nat) :
    (addAt p k r)[j]? = p[j]?.map fun u => if k = j then ins u r else u := by
  rw [addAt_eq, List.getElem?_modify]; rfl

theorem mem_addAt {p : Pool} {k : Nat} {r : Reg} {u' : RSet} (h : u' ∈ addAt p k r) :
    u' ∈ p ∨ ∃ u, p[k]? = some u ∧ u' = ins u r := by
  obtain ⟨j, hj⟩ := List.mem_iff_getElem?.1 h
  rw [getElem?_addAt] at hj
  obtain ⟨u, hu, rfl⟩ := Option.map_eq_some_iff.1 hj
  split
  next hk => exact .inr ⟨u, hk ▸ hu, rfl⟩
  next => exact .inl (List.mem_of_getElem? hu)

theorem freeFor_iff {g : Graph} {n : Reg} {u : RSet} :
    freeFor g n u = true ↔ ∀ b ∈ u, adj g n b = false := by
  simp only [freeFor, List.all_eq_true, Bool.not_eq_true', decide_eq_false_iff_not, mem_nbrs]
  constructor
  · intro h b hb
    cases hab : adj g n b
    · rfl
    · exact absurd hb (h b hab)
  · intro h m hm hmu
    rw [h m hmu] at hm; cases hm

theorem assignStep_eq_some {g : Graph} {pool pool' : Pool} {n : Reg}
    (h : assignStep g pool n = some pool') :
    (¬ n.isVirt = true ∧ pool' = pool) ∨
    ∃ k, ∃ hk : k < pool.length, freeFor g n pool[k] = true ∧ pool' = addAt pool k n := by
  unfold assignStep at h
  split at h
  · split at h
    next k hk =>
      cases h
      simp only [firstFree_eq, Nat.add_zero, Option.map_id'] at hk
      obtain ⟨hlt, hfree, _⟩ := List.findIdx?_eq_some_iff_getElem.1 hk
      exact .inr ⟨k, hlt, hfree, rfl⟩
    next => cases h
  next hv =>
    cases h
    exact .inl ⟨hv, rfl⟩

theorem poolInv_step {g : Graph} {pool pool' : Pool} {n : Reg} (inv : PoolInv g pool)
    (h : assignStep g pool n = some pool') : PoolInv g pool' := by
  rcases assignStep_eq_some h with ⟨_, rfl⟩ | ⟨k, hlt, hfree, rfl⟩
  · exact inv
  · intro u' hu' a ha b hb hab
    rcases mem_addAt hu' with h | ⟨u, hu, rfl⟩
    · exact inv u' h a ha b hb hab
    · obtain ⟨_, rfl⟩ := List.getElem?_eq_some_iff.1 hu
      have hmem : pool[k] ∈ pool := List.getElem_mem hlt
      have hf := freeFor_iff.1 hfree
      rcases mem_ins.1 ha with ha' | ha' <;> rcases mem_ins.1 hb with hb' | hb'
      · exact inv _ hmem a ha' b hb' hab
      · rw [hb', adj_comm]; exact hf a ha'
      · rw [ha']; exact hf b hb'
      · exact absurd (ha'.trans hb'.symm) hab

theorem assignFrom_cons_eq_some {g : Graph} {pool pool' : Pool} {n : Reg} {ns : List Reg} :
    assignFrom g pool (n :: ns) = some pool' ↔
      ∃ p, assignStep g pool n = some p ∧ assignFrom g p ns = some pool' := by
  rw [assignFrom]
  cases assignStep g pool n with
  | none => exact ⟨nofun, nofun⟩
  | some p => exact ⟨fun h => ⟨p, rfl, h⟩, fun ⟨_, e, h⟩ => Option.some.inj e ▸ h⟩

theorem poolInv_assignFrom {g : Graph} {ns : List Reg} {pool pool' : Pool} (inv : PoolInv g pool)
    (h : assignFrom g pool ns = some pool') : PoolInv g pool' := by
  induction ns generalizing pool with
  | nil => cases h; exact inv
  | cons n ns ih =>
    obtain ⟨p, hp, h⟩ := assignFrom_cons_eq_some.1 h
    exact ih (poolInv_step inv hp) h

theorem poolInv_replicate {g : Graph} {K : Nat} : PoolInv g (List.replicate K []) := by
  intro u hu a ha
  rw [(List.mem_replicate.1 hu).2] at ha
  cases ha

def Covered (pool : Pool) (r : Reg) : Prop := ∃ u ∈ pool, r ∈ u

theorem colourFrom_eq (r : Reg) (p : Pool) (j : Nat) :
    colourFrom r p j = (p.findIdx? fun u => decide (r ∈ u)).map (· + j) :=
  eq_findIdx?_of_eqns _ (colourFrom r) (fun _ => rfl)
    (fun u p j => by rw [colourFrom]; simp only [decide_eq_true_eq]) p j
theorem colourOf_some {r : Reg} {p : Pool} {k : Nat} (h : colourOf p r = some k) :
    ∃ u, p[k]? = some u ∧ r ∈ u := by
  simp only [colourOf, colourFrom_eq, Nat.add_zero, Option.map_id'] at h
  obtain ⟨hk, hr, _⟩ := List.findIdx?_eq_some_iff_getElem.1 h
  exact ⟨p[k], List.getElem?_eq_getElem hk, of_decide_eq_true hr⟩

theorem colourOf_isSome {r : Reg} {p : Pool} (h : Covered p r) :
    ∃ k, colourOf p r = some k ∧ k < p.length := by
  simp only [colourOf, colourFrom_eq, Nat.add_zero, Option.map_id']
  cases hf : p.findIdx? fun u => decide (r ∈ u) with
  | none =>
    obtain ⟨u, hu, hr⟩ := h
    exact absurd (decide_eq_true hr) (Bool.eq_false_iff.1 (List.findIdx?_eq_none_iff.1 hf u hu))
  | some k => exact ⟨k, rfl, (List.findIdx?_eq_some_iff_getElem.1 hf).1⟩

theorem addAt_length {p : Pool} {k : Nat} {r : Reg} : (addAt p k r).length = p.length := by
  rw [addAt_eq, List.length_modify]

theorem covered_addAt_mono {p : Pool} {k : Nat} {r x : Reg} (h : Covered p x) :
    Covered (addAt p k r) x := by
  obtain ⟨u, hu, hx⟩ := h
  obtain ⟨j, hj⟩ := List.mem_iff_getElem?.1 hu
  refine ⟨_, List.mem_of_getElem? (i := j) (by rw [getElem?_addAt, hj]; rfl), ?_⟩
  split
  · exact mem_ins.2 (.inl hx)
  · exact hx

theorem covered_addAt_self {p : Pool} {k : Nat} {r : Reg} (hk : k < p.length) :
    Covered (addAt p k r) r :=
  ⟨_, List.mem_of_getElem? (i := k) (by rw [getElem?_addAt, List.getElem?_eq_getElem hk]; rfl),
    by show r ∈ (if k = k then ins p[k] r else p[k]); rw [if_pos rfl]; exact mem_ins.2 (.inr rfl)⟩

theorem assignStep_spec {g : Graph} {pool pool' : Pool} {n : Reg}
    (h : assignStep g pool n = some pool') :
    pool'.length = pool.length ∧ (∀ x, Covered pool x → Covered pool' x) ∧
      (n.isVirt = true → Covered pool' n) := by
  rcases assignStep_eq_some h with ⟨hv, rfl⟩ | ⟨k, hlt, _, rfl⟩
  · exact ⟨rfl, fun x hx => hx, fun h => absurd h hv⟩
  · exact ⟨addAt_length, fun x hx => covered_addAt_mono hx, fun _ => covered_addAt_self hlt⟩

theorem assignFrom_spec {g : Graph} {ns : List Reg} {pool pool' : Pool}
    (h : assignFrom g pool ns = some pool') :
    pool'.length = pool.length ∧ (∀ x, Covered pool x → Covered pool' x) ∧
      (∀ n ∈ ns, n.isVirt = true → Covered pool' n) := by
  induction ns generalizing pool with
  | nil => cases h; exact ⟨rfl, fun x hx => hx, nofun⟩
  | cons n ns ih =>
    obtain ⟨p, hp, h⟩ := assignFrom_cons_eq_some.1 h
    obtain ⟨l1, m1, c1⟩ := assignStep_spec hp
    obtain ⟨l2, m2, c2⟩ := ih h
    refine ⟨l2.trans l1, fun x hx => m2 x (m1 x hx), fun x hx hv => ?_⟩
    rcases List.mem_cons.1 hx with rfl | hx
    · exact m2 _ (c1 hv)
    · exact c2 x hx hv
/-! ### spill slots -/

theorem offsetsFrom_eq (locals : Nat) (l : List Reg) (i : Nat) :
    offsetsFrom locals l i = (l.zipIdx i).map fun x => (x.1, x.2 * 8 + locals) := by
  induction l generalizing i with
  | nil => rfl
  | cons a l ih => rw [offsetsFrom, ih, List.zipIdx_cons, List.map_cons]

theorem mem_offsetsFrom {locals : Nat} {l : List Reg} {r : Reg} {o : Nat} :
    (r, o) ∈ offsetsFrom locals l 0 ↔ ∃ j, l[j]? = some r ∧ o = j * 8 + locals := by
  simp only [offsetsFrom_eq, List.mem_map, Prod.mk.injEq, Prod.exists, List.mk_mem_zipIdx_iff_getElem?]
  exact ⟨fun ⟨_, j, hj, e, ho⟩ => ⟨j, e ▸ hj, ho.symm⟩, fun ⟨j, hj, ho⟩ => ⟨r, j, hj, rfl, ho.symm⟩⟩

theorem mem_insertSorted {r x : Reg} {l : List Reg} : x ∈ insertSorted r l ↔ x = r ∨ x ∈ l := by
  induction l with
  | nil => simp [insertSorted]
  | cons a l ih =>
    simp only [insertSorted]
    split
    · simp
    · rw [List.mem_cons, ih, List.mem_cons]
      exact or_left_comm

theorem nodup_insertSorted {r : Reg} {l : List Reg} (hr : r ∉ l) (h : l.Nodup) :
    (insertSorted r l).Nodup := by
  induction l with
  | nil => simp [insertSorted]
  | cons a l ih =>
    simp only [insertSorted]
    split
    · exact List.nodup_cons.2 ⟨hr, h⟩
    · have ha := List.nodup_cons.1 h
      refine List.nodup_cons.2 ⟨?_, ih (fun h' => hr (List.mem_cons_of_mem _ h')) ha.2⟩
      intro h'
      rcases mem_insertSorted.1 h' with h' | h'
      · exact hr (by rw [h']; exact List.mem_cons_self ..)
      · exact ha.1 h'

theorem mem_foldr_insertSorted {d : List Reg} {x : Reg} : x ∈ d.foldr insertSorted [] ↔ x ∈ d := by
  induction d with
  | nil => exact Iff.rfl
  | cons a d ih => rw [List.foldr_cons, mem_insertSorted, ih, List.mem_cons]

theorem nodup_foldr_insertSorted {d : List Reg} (h : d.Nodup) : (d.foldr insertSorted []).Nodup := by
  induction d with
  | nil => exact List.nodup_nil
  | cons a d ih =>
    have ha := List.nodup_cons.1 h
    exact nodup_insertSorted (fun h' => ha.1 (mem_foldr_insertSorted.1 h')) (ih ha.2)

theorem sortRegs_spec (l : List Reg) : (sortRegs l).Nodup ∧ ∀ x, x ∈ sortRegs l ↔ x ∈ l :=
  ⟨nodup_foldr_insertSorted (nodup_foldl_ins List.nodup_nil),
    fun _ => mem_foldr_insertSorted.trans mem_dedup⟩

end SwayVerif.Asm
