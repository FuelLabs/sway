import SwayVerif.Model.Usefulness
import SwayVerif.Lemmas.UsefulnessRange
/-! The analysis of `Model/Usefulness.lean` is untyped; it is exact relative to the type of a column.
`Ty.isCtor t` lists the root constructors of the values of `t`, `Val.decomp t` splits a value into its
constructor and arguments, and a well-typed constructed pattern matches `c(args)` iff its root is `c` and
its sub-patterns match `args` (`matches_ctor`). Through that view `S(c, P)` covers `args ++ vs` iff `P`
covers `c(args) :: vs` (`specialize_spec`), `D(P)` covers `vs` iff `P` covers `v :: vs` for a `v` whose
constructor heads no row (`defaultMatrix_spec`), `is_complete_signature` tests whether Σ holds every
constructor of the type (`isComplete_spec`), and no shape check fires on a well-typed matrix. -/
namespace SwayVerif.Usefulness

/-! ## Typed layer: inhabited types, constructors of a type, decomposition of values -/

mutual
/-- Every enum (recursively) has at least one variant: every type has a value. -/
def Ty.inhab : Ty → Bool
  | .bool => true
  | .u8 => true
  | .enum ts => !ts.isEmpty && inhabL ts
  | .tuple ts => inhabL ts
  | .strct ts => inhabL ts
def inhabL : List Ty → Bool
  | [] => true
  | t :: ts => t.inhab && inhabL ts
end

def Ty.isCtor : Ty → Ctor → Bool
  | .bool, .bool _ => true
  | .u8, .u8 lo hi => lo == hi && decide (hi ≤ 255)
  | .enum ts, .enum n k => n == ts.length && decide (k < ts.length)
  | .tuple ts, .tuple n => n == ts.length
  | .strct ts, .strct idx => idx == List.range ts.length
  | _, _ => false

def Ty.argTys : Ty → Ctor → List Ty
  | .enum ts, .enum _ k => match ts[k]? with
    | some t => [t]
    | none => []
  | .tuple ts, .tuple _ => ts
  | .strct ts, .strct _ => ts
  | _, _ => []

def Val.decomp : Ty → Val → Option (Ctor × List Val)
  | .bool, .bool b => some (.bool b, [])
  | .u8, .u8 n => some (.u8 n n, [])
  | .enum ts, .enum k v => some (.enum ts.length k, [v])
  | .tuple ts, .tuple vs => some (.tuple ts.length, vs)
  | .strct ts, .tuple vs => some (.strct (List.range ts.length), vs)
  | _, _ => none

/-! ## List-level facts about typing and matching -/

theorem hasTyL_length : ∀ {vs : List Val} {ts : List Ty}, hasTyL vs ts = true → vs.length = ts.length
  | [], [] => fun _ => rfl
  | v :: vs, t :: ts => fun h => by
    rw [hasTyL, Bool.and_eq_true] at h
    rw [List.length_cons, List.length_cons, hasTyL_length h.2]
  | [], _ :: _ | _ :: _, [] => fun h => absurd h Bool.false_ne_true

theorem patsHaveTy_length : ∀ {ps : List Pat} {ts : List Ty}, patsHaveTy ps ts = true → ps.length = ts.length
  | [], [] => fun _ => rfl
  | p :: ps, t :: ts => fun h => by
    rw [patsHaveTy, Bool.and_eq_true] at h
    rw [List.length_cons, List.length_cons, patsHaveTy_length h.2]
  | [], _ :: _ | _ :: _, [] => fun h => absurd h Bool.false_ne_true

theorem matchesL_length : ∀ {ps : List Pat} {vs : List Val}, matchesL ps vs = true → ps.length = vs.length
  | [], [] => fun _ => rfl
  | p :: ps, v :: vs => fun h => by
    rw [matchesL, Bool.and_eq_true] at h
    rw [List.length_cons, List.length_cons, matchesL_length h.2]
  | [], _ :: _ | _ :: _, [] => fun h => absurd h Bool.false_ne_true

theorem patsHaveTy_append {b : List Pat} {tb : List Ty} : ∀ {a : List Pat} {ta : List Ty}, a.length = ta.length →
    patsHaveTy (a ++ b) (ta ++ tb) = (patsHaveTy a ta && patsHaveTy b tb)
  | [], [] => fun _ => (Bool.true_and _).symm
  | p :: a, t :: ta => fun h => by
    rw [List.cons_append, List.cons_append, patsHaveTy, patsHaveTy, patsHaveTy_append (Nat.succ.inj h),
      Bool.and_assoc]
  | [], _ :: _ | _ :: _, [] => fun h => nomatch h

theorem hasTyL_append {b : List Val} {tb : List Ty} : ∀ {a : List Val} {ta : List Ty}, a.length = ta.length →
    hasTyL (a ++ b) (ta ++ tb) = (hasTyL a ta && hasTyL b tb)
  | [], [] => fun _ => (Bool.true_and _).symm
  | v :: a, t :: ta => fun h => by
    rw [List.cons_append, List.cons_append, hasTyL, hasTyL, hasTyL_append (Nat.succ.inj h), Bool.and_assoc]
  | [], _ :: _ | _ :: _, [] => fun h => nomatch h

theorem matchesL_append {b : List Pat} {vb : List Val} : ∀ {a : List Pat} {va : List Val}, a.length = va.length →
    matchesL (a ++ b) (va ++ vb) = (matchesL a va && matchesL b vb)
  | [], [] => fun _ => (Bool.true_and _).symm
  | p :: a, v :: va => fun h => by
    rw [List.cons_append, List.cons_append, matchesL, matchesL, matchesL_append (Nat.succ.inj h),
      Bool.and_assoc]
  | [], _ :: _ | _ :: _, [] => fun h => nomatch h

theorem hasTyL_split : ∀ {vs' : List Val} {A B : List Ty}, hasTyL vs' (A ++ B) = true →
    ∃ va vb, vs' = va ++ vb ∧ hasTyL va A = true ∧ hasTyL vb B = true
  | vs', [], B, h => ⟨[], vs', rfl, rfl, h⟩
  | [], _ :: _, _, h => by simp [hasTyL] at h
  | v :: vs', a :: A, B, h => by
    simp only [List.cons_append, hasTyL, Bool.and_eq_true] at h
    obtain ⟨va, vb, rfl, h1, h2⟩ := hasTyL_split h.2
    exact ⟨v :: va, vb, rfl, by simp [hasTyL, h.1, h1], h2⟩

theorem hasTyL_nil {vs : List Val} (h : hasTyL vs [] = true) : vs = [] :=
  List.eq_nil_of_length_eq_zero (hasTyL_length h)

theorem hasTyL_singleton {vs : List Val} {t : Ty} (h : hasTyL vs [t] = true) :
    ∃ v, vs = [v] ∧ v.hasTy t = true := by
  match vs, h with
  | [v], h => exact ⟨v, rfl, by simpa [hasTyL] using h⟩
  | [], h => simp [hasTyL] at h
  | _ :: _ :: _, h => simp [hasTyL] at h

theorem wilds_length (n : Nat) : (wilds n).length = n := List.length_replicate

theorem patsHaveTy_wilds : ∀ (ts : List Ty), patsHaveTy (wilds ts.length) ts = true
  | [] => rfl
  | t :: ts => by
    show patsHaveTy (Pat.wild :: wilds ts.length) (t :: ts) = true
    rw [patsHaveTy, patsHaveTy_wilds ts]; rfl

theorem matchesL_wilds : ∀ (vs : List Val), matchesL (wilds vs.length) vs = true
  | [] => rfl
  | v :: vs => by
    show matchesL (Pat.wild :: wilds vs.length) (v :: vs) = true
    rw [matchesL, matchesL_wilds vs]; rfl

theorem inhabL_get {ts : List Ty} (h : inhabL ts = true) {k : Nat} {t : Ty} (hk : ts[k]? = some t) :
    t.inhab = true := by
  induction ts generalizing k with
  | nil => simp at hk
  | cons a ts ih =>
    simp only [inhabL, Bool.and_eq_true] at h
    cases k with
    | zero => simp at hk; subst hk; exact h.1
    | succ k => exact ih h.2 (by simpa using hk)

theorem inhabL_append {a b : List Ty} (ha : inhabL a = true) (hb : inhabL b = true) : inhabL (a ++ b) = true := by
  induction a with
  | nil => exact hb
  | cons x a ih =>
    rw [inhabL, Bool.and_eq_true] at ha
    rw [List.cons_append, inhabL, ha.1, ih ha.2]; rfl

theorem allHaveTy_mem {ps : List Pat} {t : Ty} (h : allHaveTy ps t = true) : ∀ a ∈ ps, a.hasTy t = true := by
  induction ps with
  | nil => exact fun _ ha => nomatch ha
  | cons p ps ih =>
    rw [allHaveTy, Bool.and_eq_true] at h
    exact List.forall_mem_cons.mpr ⟨h.1, ih h.2⟩

theorem hasTy_or {ps : List Pat} {t : Ty} (h : (Pat.or ps).hasTy t = true) :
    ps ≠ [] ∧ allHaveTy ps t = true := by
  have h : (!ps.isEmpty && allHaveTy ps t) = true := h
  rw [Bool.and_eq_true] at h
  exact ⟨fun e => by rw [e] at h; exact absurd h.1 Bool.false_ne_true, h.2⟩

/-! ## The typed view: constructors of a type, constructed patterns of a type -/

/-- The constructors of each type (`Ty.isCtor` as a relation, so that `cases` yields the five real cases). -/
inductive IsCtor : Ty → Ctor → Prop
  | bool (b : Bool) : IsCtor .bool (.bool b)
  | u8 {n : Nat} (h : n ≤ 255) : IsCtor .u8 (.u8 n n)
  | enum {ts : List Ty} {k : Nat} {t : Ty} (h : ts[k]? = some t) : IsCtor (.enum ts) (.enum ts.length k)
  | tuple (ts : List Ty) : IsCtor (.tuple ts) (.tuple ts.length)
  | strct (ts : List Ty) : IsCtor (.strct ts) (.strct (List.range ts.length))

theorem isCtor_iff {t : Ty} {c : Ctor} : t.isCtor c = true ↔ IsCtor t c := by
  constructor
  · intro h
    unfold Ty.isCtor at h
    split at h
    · exact .bool _
    · rw [Bool.and_eq_true, beq_iff_eq, decide_eq_true_eq] at h
      obtain ⟨rfl, h⟩ := h
      exact .u8 h
    · rw [Bool.and_eq_true, beq_iff_eq, decide_eq_true_eq] at h
      obtain ⟨rfl, h⟩ := h
      exact .enum (List.getElem?_eq_getElem h)
    · cases beq_iff_eq.mp h; exact .tuple _
    · cases beq_iff_eq.mp h; exact .strct _
    · exact absurd h Bool.false_ne_true
  · intro h
    cases h with
    | bool b => rfl
    | u8 h => exact Bool.and_eq_true _ _ ▸ ⟨beq_self_eq_true _, decide_eq_true h⟩
    | enum h =>
      exact Bool.and_eq_true _ _ ▸ ⟨beq_self_eq_true _, decide_eq_true (List.getElem?_eq_some_iff.mp h).1⟩
    | tuple ts => exact beq_self_eq_true _
    | strct ts => exact beq_self_eq_true _

/-- The constructed patterns of each type with their root constructor (`Pat.hasTy` and `Pat.ctor?`
as one relation). -/
inductive PatOf : Pat → Ty → Ctor → Prop
  | bool (b : Bool) : PatOf (.bool b) .bool (.bool b)
  | u8 {n : Nat} (h : n ≤ 255) : PatOf (.u8 n n) .u8 (.u8 n n)
  | enum {ts : List Ty} {k : Nat} {t : Ty} {p : Pat} (h : ts[k]? = some t) (hp : p.hasTy t = true) :
      PatOf (.enum ts.length k p) (.enum ts) (.enum ts.length k)
  | tuple {ps : List Pat} {ts : List Ty} (h : patsHaveTy ps ts = true) :
      PatOf (.tuple ps) (.tuple ts) (.tuple ps.length)
  | strct {ps : List Pat} {ts : List Ty} (h : patsHaveTy ps ts = true) :
      PatOf (.strct (List.range ts.length) ps) (.strct ts) (.strct (List.range ts.length))

theorem patOf {p : Pat} {t : Ty} {d : Ctor} (h : p.hasTy t = true) (hd : p.ctor? = some d) : PatOf p t d := by
  unfold Pat.hasTy at h
  split at h
  · cases hd
  · cases hd; exact .bool _
  · cases hd
    rw [Bool.and_eq_true, beq_iff_eq, decide_eq_true_eq] at h
    obtain ⟨rfl, h⟩ := h
    exact .u8 h
  · cases hd
    rw [Bool.and_eq_true, beq_iff_eq] at h
    obtain ⟨rfl, h⟩ := h
    split at h
    next hk => exact .enum hk h
    · exact absurd h Bool.false_ne_true
  · cases hd; exact .tuple h
  · cases hd
    rw [Bool.and_eq_true, beq_iff_eq] at h
    obtain ⟨rfl, h⟩ := h
    exact .strct h
  · cases hd
  · exact absurd h Bool.false_ne_true

theorem ctor_of_hasTy {p : Pat} {t : Ty} {d : Ctor} (hp : p.hasTy t = true) (hd : p.ctor? = some d) :
    t.isCtor d = true ∧ patsHaveTy p.args (t.argTys d) = true := by
  cases patOf hp hd with
  | bool b => exact ⟨rfl, rfl⟩
  | u8 h => exact ⟨isCtor_iff.mpr (.u8 h), rfl⟩
  | enum h hq => exact ⟨isCtor_iff.mpr (.enum h), by simp only [Ty.argTys, h, Pat.args, patsHaveTy, hq, Bool.and_self]⟩
  | tuple h => exact ⟨beq_iff_eq.mpr (patsHaveTy_length h), h⟩
  | strct h => exact ⟨isCtor_iff.mpr (.strct _), h⟩

theorem argTys_length {t : Ty} {c : Ctor} (hc : t.isCtor c = true) : (t.argTys c).length = c.arity := by
  cases isCtor_iff.mp hc with
  | bool | u8 | tuple => rfl
  | enum h => simp only [Ty.argTys, h]; rfl
  | strct ts => exact List.length_range.symm

theorem patsHaveTy_wilds_arity {t : Ty} {c : Ctor} (hc : t.isCtor c = true) :
    patsHaveTy (wilds c.arity) (t.argTys c) = true := by
  rw [← argTys_length hc]; exact patsHaveTy_wilds _

theorem matchesL_wilds_arity {t : Ty} {c : Ctor} {vargs : List Val} (hc : t.isCtor c = true)
    (hargs : hasTyL vargs (t.argTys c) = true) : matchesL (wilds c.arity) vargs = true := by
  rw [← argTys_length hc, ← hasTyL_length hargs]; exact matchesL_wilds _

theorem same_iff {t : Ty} {c d : Ctor} (hc : t.isCtor c = true) (hd : t.isCtor d = true) :
    c.same d = true ↔ c = d := by
  cases isCtor_iff.mp hc <;> cases isCtor_iff.mp hd <;> simp [Ctor.same]

theorem inhab_argTys {t : Ty} {c : Ctor} (ht : t.inhab = true) (hc : t.isCtor c = true) :
    inhabL (t.argTys c) = true := by
  cases isCtor_iff.mp hc with
  | bool | u8 => rfl
  | enum h =>
    rw [Ty.inhab, Bool.and_eq_true] at ht
    simp only [Ty.argTys, h, inhabL, inhabL_get ht.2 h, Bool.and_self]
  | tuple | strct => exact ht

theorem decomp_of_hasTy {t : Ty} {v : Val} (h : v.hasTy t = true) :
    ∃ c vargs, v.decomp t = some (c, vargs) ∧ t.isCtor c = true ∧ hasTyL vargs (t.argTys c) = true := by
  unfold Val.hasTy at h
  split at h
  · exact ⟨_, _, rfl, rfl, rfl⟩
  · exact ⟨_, _, rfl, isCtor_iff.mpr (.u8 (of_decide_eq_true h)), rfl⟩
  · split at h
    next hk =>
      refine ⟨_, _, rfl, isCtor_iff.mpr (.enum hk), ?_⟩
      rw [Ty.argTys, hk, hasTyL, h]; rfl
    · exact absurd h Bool.false_ne_true
  · exact ⟨_, _, rfl, isCtor_iff.mpr (.tuple _), h⟩
  · exact ⟨_, _, rfl, isCtor_iff.mpr (.strct _), h⟩
  · exact absurd h Bool.false_ne_true

theorem mkVal {t : Ty} {c : Ctor} {vargs : List Val} (hc : t.isCtor c = true)
    (ha : hasTyL vargs (t.argTys c) = true) :
    ∃ v : Val, v.hasTy t = true ∧ v.decomp t = some (c, vargs) := by
  cases isCtor_iff.mp hc with
  | bool b => cases hasTyL_nil ha; exact ⟨.bool b, rfl, rfl⟩
  | @u8 n h => cases hasTyL_nil ha; exact ⟨.u8 n, by simp [Val.hasTy, h], rfl⟩
  | @enum ts k t h =>
    simp only [Ty.argTys, h] at ha
    obtain ⟨v, rfl, hv⟩ := hasTyL_singleton ha
    exact ⟨.enum k v, by simp [Val.hasTy, h, hv], rfl⟩
  | tuple ts => exact ⟨.tuple vargs, ha, rfl⟩
  | strct ts => exact ⟨.tuple vargs, ha, rfl⟩

/-! ## Constructed patterns against decomposed values -/

theorem matchesF_range' : ∀ (ps : List Pat) (k : Nat) (vs : List Val), k + ps.length = vs.length →
    matchesF (List.range' k ps.length) ps vs = matchesL ps (vs.drop k)
  | [], k, vs, h => by
    rw [List.drop_eq_nil_of_le (show vs.length ≤ k from Nat.le_of_eq h.symm)]
    rfl
  | p :: ps, k, vs, h => by
    rw [List.length_cons] at h
    have hk : k < vs.length := by omega
    rw [List.length_cons, List.range'_succ, matchesF, matchesF_range' ps (k + 1) vs (by omega),
      List.getElem?_eq_getElem hk, List.drop_eq_getElem_cons hk]
    rfl

theorem matchesF_range {ps : List Pat} {vs : List Val} (h : ps.length = vs.length) :
    matchesF (List.range ps.length) ps vs = matchesL ps vs := by
  rw [List.range_eq_range', matchesF_range' ps 0 vs (by omega)]; rfl

theorem matches_ctor {p : Pat} {t : Ty} {v : Val} {c d : Ctor} {vargs : List Val}
    (hp : p.hasTy t = true) (hd : p.ctor? = some d) (hv : v.decomp t = some (c, vargs))
    (hargs : hasTyL vargs (t.argTys c) = true) :
    p.matches v = (decide (c = d) && matchesL p.args vargs) := by
  cases patOf hp hd <;> cases v <;> cases hv
  case bool.bool b b' => cases b <;> cases b' <;> rfl
  case u8.u8 n _ m =>
    show (decide (n ≤ m) && decide (m ≤ n)) = (decide (Ctor.u8 m m = Ctor.u8 n n) && true)
    rw [Bool.and_true, Bool.eq_iff_iff, Bool.and_eq_true, decide_eq_true_eq, decide_eq_true_eq,
      decide_eq_true_eq, Ctor.u8.injEq, and_self]
    exact ⟨fun h => Nat.le_antisymm h.2 h.1, fun h => h ▸ ⟨Nat.le_refl _, Nat.le_refl _⟩⟩
  case enum.enum ts k t p _ _ k' v' =>
    have hk : (k == k') = decide (Ctor.enum ts.length k' = .enum ts.length k) :=
      decide_eq_decide.mpr ⟨fun h => h ▸ rfl, fun h => (Ctor.enum.inj h).2.symm⟩
    show (k == k' && p.matches v') = (_ && (p.matches v' && true))
    rw [hk, Bool.and_true]
  case tuple.tuple ps ts hps =>
    rw [patsHaveTy_length hps, decide_eq_true rfl]
    rfl
  case strct.tuple ps ts hps =>
    have hl : ps.length = vargs.length := by
      rw [patsHaveTy_length hps, hasTyL_length (show hasTyL vargs ts = true from hargs)]
    show matchesF (List.range ts.length) ps vargs = _
    rw [decide_eq_true rfl, ← patsHaveTy_length hps, matchesF_range hl]
    rfl

/-! ## Inhabitants -/

mutual
theorem exists_val : ∀ (t : Ty), t.inhab = true → ∃ v : Val, v.hasTy t = true
  | .bool => fun _ => ⟨Val.bool true, rfl⟩
  | .u8 => fun _ => ⟨Val.u8 0, rfl⟩
  | .enum ts => fun h => by
    simp only [Ty.inhab, Bool.and_eq_true] at h
    match ts, h with
    | t :: ts, h =>
      simp only [inhabL, Bool.and_eq_true] at h
      obtain ⟨v, hv⟩ := exists_val t h.2.1
      exact ⟨Val.enum 0 v, by simp [Val.hasTy, hv]⟩
  | .tuple ts | .strct ts => fun h => by
    obtain ⟨vs, hvs⟩ := exists_vals ts (by simpa [Ty.inhab] using h)
    exact ⟨Val.tuple vs, by simpa [Val.hasTy] using hvs⟩
theorem exists_vals : ∀ (ts : List Ty), inhabL ts = true → ∃ vs, hasTyL vs ts = true
  | [] => fun _ => ⟨[], rfl⟩
  | t :: ts => fun h => by
    simp only [inhabL, Bool.and_eq_true] at h
    obtain ⟨v, hv⟩ := exists_val t h.1
    obtain ⟨vs, hvs⟩ := exists_vals ts h.2
    exact ⟨v :: vs, by simp [hasTyL, hv, hvs]⟩
end

mutual
theorem exists_match : ∀ (p : Pat) (t : Ty), t.inhab = true → p.hasTy t = true →
    ∃ v : Val, v.hasTy t = true ∧ p.matches v = true
  | .wild => fun t ht _ => by
    obtain ⟨v, hv⟩ := exists_val t ht
    exact ⟨v, hv, rfl⟩
  | .bool b => fun t _ hp => by
    cases patOf hp rfl
    exact ⟨.bool b, rfl, by cases b <;> rfl⟩
  | .u8 lo hi => fun t _ hp => by
    cases patOf hp rfl with
    | u8 h => exact ⟨.u8 lo, decide_eq_true h, (Bool.and_self _).trans (decide_eq_true (Nat.le_refl lo))⟩
  | .num lo hi => fun t _ hp => nomatch patOf hp rfl
  | .enum n k p => fun t ht hp => by
    cases patOf hp rfl with
    | @enum ts _ t' _ hk hp' =>
      rw [Ty.inhab, Bool.and_eq_true] at ht
      obtain ⟨v, hv, hm⟩ := exists_match p t' (inhabL_get ht.2 hk) hp'
      refine ⟨.enum k v, ?_, ?_⟩
      · rw [Val.hasTy, hk]; exact hv
      · rw [Pat.matches, hm, Bool.and_true]; exact decide_eq_true rfl
  | .tuple ps => fun t ht hp => by
    cases patOf hp rfl with
    | @tuple _ ts h =>
      obtain ⟨vs, hvs, hm⟩ := exists_matchL ps ts ht h
      exact ⟨.tuple vs, hvs, hm⟩
  | .strct idx ps => fun t ht hp => by
    cases patOf hp rfl with
    | @strct _ ts h =>
      obtain ⟨vs, hvs, hm⟩ := exists_matchL ps ts ht h
      refine ⟨.tuple vs, hvs, ?_⟩
      rw [Pat.matches, ← patsHaveTy_length h, matchesF_range (matchesL_length hm), hm]
  | .or ps => fun t ht hp => by
    cases ps with
    | nil => exact absurd rfl (hasTy_or hp).1
    | cons p ps =>
      obtain ⟨v, hv, hm⟩ := exists_match p t ht (allHaveTy_mem (hasTy_or hp).2 p List.mem_cons_self)
      exact ⟨v, hv, by rw [Pat.matches, matchesAny, hm]; rfl⟩
theorem exists_matchL : ∀ (ps : List Pat) (ts : List Ty), inhabL ts = true → patsHaveTy ps ts = true →
    ∃ vs, hasTyL vs ts = true ∧ matchesL ps vs = true
  | [], [] => fun _ _ => ⟨[], rfl, rfl⟩
  | p :: ps, t :: ts => fun ht hp => by
    rw [inhabL, Bool.and_eq_true] at ht
    rw [patsHaveTy, Bool.and_eq_true] at hp
    obtain ⟨v, hv, hm⟩ := exists_match p t ht.1 hp.1
    obtain ⟨vs, hvs, hms⟩ := exists_matchL ps ts ht.2 hp.2
    exact ⟨v :: vs, by rw [hasTyL, hv, hvs]; rfl, by rw [matchesL, hm, hms]; rfl⟩
  | [], _ :: _ | _ :: _, [] => fun _ hp => absurd hp Bool.false_ne_true
end

/-! ## Well-typed matrices, usefulness -/

def rowsHaveTy (P : Matrix) (ts : List Ty) : Prop := ∀ r ∈ P, patsHaveTy r ts = true

def Useful (ts : List Ty) (P : Matrix) (q : Row) : Prop :=
  ∃ vs, hasTyL vs ts = true ∧ matchesL q vs = true ∧ ∀ r ∈ P, matchesL r vs = false

theorem any_false_iff {P : Matrix} {vs : List Val} :
    (P.any fun row => matchesL row vs) = false ↔ ∀ r ∈ P, matchesL r vs = false := by
  simp [List.any_eq_false]

theorem useful_cons {t : Ty} {ts' : List Ty} {P : Matrix} {q1 : Pat} {qs : Row} :
    Useful (t :: ts') P (q1 :: qs) ↔
      ∃ (v : Val) (vs : List Val), v.hasTy t = true ∧ hasTyL vs ts' = true ∧ q1.matches v = true ∧
        matchesL qs vs = true ∧ ∀ r ∈ P, matchesL r (v :: vs) = false := by
  constructor
  · rintro ⟨vs0, hty, hm, hun⟩
    match vs0, hty, hm, hun with
    | v :: vs, hty, hm, hun =>
      rw [hasTyL, Bool.and_eq_true] at hty
      rw [matchesL, Bool.and_eq_true] at hm
      exact ⟨v, vs, hty.1, hty.2, hm.1, hm.2, hun⟩
    | [], hty, _, _ => simp [hasTyL] at hty
  · rintro ⟨v, vs, hv, hvs, hm, hmq, hun⟩
    exact ⟨v :: vs, by rw [hasTyL, hv, hvs]; rfl, by rw [matchesL, hm, hmq]; rfl, hun⟩

/-- Some value with root constructor `c` whose arguments are matched by `args`, followed by a vector
matched by `qs`, is not covered by `P`. -/
def UsefulAt (t : Ty) (ts' : List Ty) (P : Matrix) (args qs : Row) (c : Ctor) : Prop :=
  ∃ (v : Val) (vargs vs : List Val), v.hasTy t = true ∧ v.decomp t = some (c, vargs) ∧
    hasTyL vargs (t.argTys c) = true ∧ hasTyL vs ts' = true ∧ matchesL args vargs = true ∧
    matchesL qs vs = true ∧ ∀ r ∈ P, matchesL r (v :: vs) = false

/-! ## Shape checks never fire on well-typed matrices -/

theorem dims_uniform {rows : List Row} {w : Nat} (h : ∀ r ∈ rows, r.length = w) :
    dims rows = some (if rows = [] then (0, 0) else (rows.length, w)) := by
  cases rows with
  | nil => rfl
  | cons r rs =>
    have hall : (rs.all fun r' => r'.length == r.length) = true :=
      List.all_eq_true.mpr fun x hx =>
        beq_iff_eq.mpr ((h x (List.mem_cons_of_mem _ hx)).trans (h r List.mem_cons_self).symm)
    rw [dims, if_pos hall, if_neg (List.cons_ne_nil _ _), h r List.mem_cons_self]
    rfl

theorem checkShape_ok {rows : List Row} {w : Nat} (h : ∀ r ∈ rows, r.length = w) :
    checkShape rows w = some rows := by
  unfold checkShape
  rw [dims_uniform h]
  by_cases hr : rows = [] <;> simp [hr]

/-! ## `S(c, P)` on a well-typed first column -/

theorem specPat_ctor {c : Ctor} {w : Nat} {p : Pat} {d : Ctor} (rest : Row) (hd : p.ctor? = some d) :
    specPat c w p rest = if c.same d = true then some [p.args ++ rest] else some [] := by
  cases p <;> cases hd <;> rfl

/-- What the rows produced from `p :: rest` (resp. from the alternatives `ps`) must satisfy. -/
structure SpecRes (c : Ctor) (t : Ty) (ts' : List Ty) (matchHead : Val → Bool) (rest : Row)
    (rows : List Row) : Prop where
  typed : ∀ row ∈ rows, patsHaveTy row (t.argTys c ++ ts') = true
  sem : ∀ v vargs vs, v.decomp t = some (c, vargs) → hasTyL vargs (t.argTys c) = true →
    (rows.any fun row => matchesL row (vargs ++ vs)) = (matchHead v && matchesL rest vs)

theorem specPat_ctor_spec (c : Ctor) (t : Ty) (ts' : List Ty) (w : Nat) (hc : t.isCtor c = true)
    (rest : Row) (hrest : patsHaveTy rest ts' = true) {p : Pat} {d : Ctor} (hp : p.hasTy t = true)
    (hd : p.ctor? = some d) :
    ∃ rows, specPat c w p rest = some rows ∧ SpecRes c t ts' p.matches rest rows := by
  obtain ⟨hdc, hargsTy⟩ := ctor_of_hasTy hp hd
  rw [specPat_ctor rest hd]
  by_cases hcd : c = d
  · subst hcd
    have hs : c.same c = true := (same_iff hc hc).mpr rfl
    refine ⟨[p.args ++ rest], by simp [hs], ?_, ?_⟩
    · intro row hr
      simp at hr; subst hr
      rw [patsHaveTy_append (patsHaveTy_length hargsTy), hargsTy, hrest]; rfl
    · intro v vargs vs hv ha
      have hl : p.args.length = vargs.length := by
        rw [patsHaveTy_length hargsTy, hasTyL_length ha]
      rw [matches_ctor hp hd hv ha]
      simp [matchesL_append hl]
  · have hs : ¬ (c.same d = true) := fun h => hcd ((same_iff hc hdc).mp h)
    refine ⟨[], by simp [hs], by intro row hr; simp at hr, ?_⟩
    intro v vargs vs hv ha
    rw [matches_ctor hp hd hv ha]
    simp [hcd]

mutual
theorem specPat_spec (c : Ctor) (t : Ty) (ts' : List Ty) (w : Nat) (hc : t.isCtor c = true)
    (hw : w = c.arity + ts'.length) (rest : Row) (hrest : patsHaveTy rest ts' = true) :
    ∀ (p : Pat), p.hasTy t = true → ∃ rows, specPat c w p rest = some rows ∧ SpecRes c t ts' p.matches rest rows
  | .wild => fun _ => by
    refine ⟨[wilds c.arity ++ rest], rfl, ?_, ?_⟩
    · intro row hr
      rw [List.mem_singleton.mp hr, patsHaveTy_append (by rw [wilds_length, argTys_length hc]),
        patsHaveTy_wilds_arity hc, hrest]
      rfl
    · intro v vargs vs _ hargs
      rw [List.any_cons, List.any_nil, Bool.or_false,
        matchesL_append (by rw [wilds_length, ← argTys_length hc, hasTyL_length hargs]),
        matchesL_wilds_arity hc hargs]
      rfl
  | .or ps => fun hp => by
    obtain ⟨rows, hr, hres⟩ := specAlts_spec c t ts' w hc hw rest hrest ps (hasTy_or hp).2
    refine ⟨rows, ?_, hres⟩
    rw [specPat, hr, Option.bind_some]
    exact checkShape_ok fun row hrow => by
      rw [hw, patsHaveTy_length (hres.typed row hrow), List.length_append, argTys_length hc]
  | .bool _ | .u8 _ _ | .num _ _ | .enum _ _ _ | .tuple _ | .strct _ _ => fun hp =>
    specPat_ctor_spec c t ts' w hc rest hrest hp rfl
theorem specAlts_spec (c : Ctor) (t : Ty) (ts' : List Ty) (w : Nat) (hc : t.isCtor c = true)
    (hw : w = c.arity + ts'.length) (rest : Row) (hrest : patsHaveTy rest ts' = true) :
    ∀ (ps : List Pat), allHaveTy ps t = true →
      ∃ rows, specAlts c w ps rest = some rows ∧ SpecRes c t ts' (matchesAny ps) rest rows
  | [] => fun _ => ⟨[], by simp [specAlts], by intro row hr; simp at hr, by intros; simp [matchesAny]⟩
  | p :: ps => fun hp => by
    simp only [allHaveTy, Bool.and_eq_true] at hp
    obtain ⟨r1, h1, s1⟩ := specPat_spec c t ts' w hc hw rest hrest p hp.1
    obtain ⟨r2, h2, s2⟩ := specAlts_spec c t ts' w hc hw rest hrest ps hp.2
    refine ⟨r1 ++ r2, by simp [specAlts, h1, h2, bindRows], ?_, ?_⟩
    · exact fun row hr => (List.mem_append.mp hr).elim (s1.typed row) (s2.typed row)
    · intro v vargs vs hv ha
      rw [List.any_append, s1.sem v vargs vs hv ha, s2.sem v vargs vs hv ha, matchesAny,
        Bool.and_or_distrib_right]
end

theorem specRows_spec (c : Ctor) (t : Ty) (ts' : List Ty) (w : Nat) (hc : t.isCtor c = true)
    (hw : w = c.arity + ts'.length) :
    ∀ (P : Matrix), rowsHaveTy P (t :: ts') →
      ∃ S, specRows c w P = some S ∧ rowsHaveTy S (t.argTys c ++ ts') ∧
        ∀ v vargs vs, v.decomp t = some (c, vargs) → hasTyL vargs (t.argTys c) = true →
          (S.any fun row => matchesL row (vargs ++ vs)) = (P.any fun row => matchesL row (v :: vs))
  | [] => fun _ => ⟨[], rfl, by intro r hr; simp at hr, by intros; simp⟩
  | [] :: P => fun hP => absurd (hP [] List.mem_cons_self) Bool.false_ne_true
  | (p :: rest) :: P => fun hP => by
    have hrow := hP (p :: rest) (by simp)
    simp only [patsHaveTy, Bool.and_eq_true] at hrow
    obtain ⟨r1, h1, s1⟩ := specPat_spec c t ts' w hc hw rest hrow.2 p hrow.1
    obtain ⟨r2, h2, t2, s2⟩ := specRows_spec c t ts' w hc hw P (fun r hr => hP r (by simp [hr]))
    refine ⟨r1 ++ r2, by simp [specRows, h1, h2, bindRows], ?_, ?_⟩
    · exact fun row hr => (List.mem_append.mp hr).elim (s1.typed row) (t2 row)
    · intro v vargs vs hv ha
      rw [List.any_append, s1.sem v vargs vs hv ha, s2 v vargs vs hv ha, List.any_cons, matchesL]

theorem specialize_spec (c : Ctor) (t : Ty) (ts' : List Ty) (hc : t.isCtor c = true) (P : Matrix)
    (hP : rowsHaveTy P (t :: ts')) :
    ∃ S, specialize c P (ts'.length + 1) = some S ∧ rowsHaveTy S (t.argTys c ++ ts') ∧
      ∀ args qs, patsHaveTy args (t.argTys c) = true →
        (Useful (t.argTys c ++ ts') S (args ++ qs) ↔ UsefulAt t ts' P args qs c) := by
  have hw : c.arity + (ts'.length + 1) - 1 = c.arity + ts'.length := rfl
  obtain ⟨S, hS, hT, hsem⟩ := specRows_spec c t ts' (c.arity + ts'.length) hc rfl P hP
  refine ⟨S, ?_, hT, fun args qs hargs => ⟨?_, ?_⟩⟩
  · unfold specialize
    rw [hw, hS, Option.bind_some]
    exact checkShape_ok fun row hr => by rw [patsHaveTy_length (hT row hr), List.length_append, argTys_length hc]
  · rintro ⟨vs', hty, hm, hun⟩
    obtain ⟨vargs, vs, rfl, h1, h2⟩ := hasTyL_split hty
    obtain ⟨v, hv, hd⟩ := mkVal hc h1
    have hl : args.length = vargs.length := by rw [patsHaveTy_length hargs, hasTyL_length h1]
    rw [matchesL_append hl, Bool.and_eq_true] at hm
    refine ⟨v, vargs, vs, hv, hd, h1, h2, hm.1, hm.2, ?_⟩
    rw [← any_false_iff, ← hsem v vargs vs hd h1, any_false_iff]
    exact hun
  · rintro ⟨v, vargs, vs, _, hd, h1, h2, hm1, hm2, hun⟩
    have hl : args.length = vargs.length := by rw [patsHaveTy_length hargs, hasTyL_length h1]
    refine ⟨vargs ++ vs, ?_, ?_, ?_⟩
    · rw [hasTyL_append (hasTyL_length h1), h1, h2]; rfl
    · rw [matchesL_append hl, hm1, hm2]; rfl
    · rw [← any_false_iff, hsem v vargs vs hd h1, any_false_iff]
      exact hun

/-! ## `D(P)` -/

structure DefRes (t : Ty) (ts' : List Ty) (matchHead : Val → Bool) (heads : List Ctor) (rest : Row)
    (rows : List Row) : Prop where
  typed : ∀ row ∈ rows, patsHaveTy row ts' = true
  sound : ∀ v vs, (rows.any fun row => matchesL row vs) = true → (matchHead v && matchesL rest vs) = true
  sem : ∀ v c vargs vs, v.decomp t = some (c, vargs) → hasTyL vargs (t.argTys c) = true → c ∉ heads →
    (matchHead v && matchesL rest vs) = (rows.any fun row => matchesL row vs)

theorem defPat_ctor {w : Nat} {p : Pat} {d : Ctor} (rest : Row) (hd : p.ctor? = some d) :
    defPat w p rest = some [] := by
  cases p <;> cases hd <;> rfl

theorem rootCtors_ctor {p : Pat} {d : Ctor} (hd : p.ctor? = some d) : p.rootCtors = [d] := by
  cases p <;> cases hd <;> rfl

theorem defPat_ctor_spec (t : Ty) (ts' : List Ty) (w : Nat) (rest : Row) {p : Pat} {d : Ctor}
    (hp : p.hasTy t = true) (hd : p.ctor? = some d) :
    ∃ rows, defPat w p rest = some rows ∧ DefRes t ts' p.matches p.rootCtors rest rows := by
  refine ⟨[], defPat_ctor rest hd, by intro row hr; simp at hr, by intro v vs h; simp at h, ?_⟩
  intro v c vargs vs hv ha hn
  rw [rootCtors_ctor hd] at hn
  have hcd : c ≠ d := by simpa using hn
  rw [matches_ctor hp hd hv ha]
  simp [hcd]

mutual
theorem defPat_spec (t : Ty) (ts' : List Ty) (w : Nat) (hw : w = ts'.length) (rest : Row)
    (hrest : patsHaveTy rest ts' = true) :
    ∀ (p : Pat), p.hasTy t = true → ∃ rows, defPat w p rest = some rows ∧ DefRes t ts' p.matches p.rootCtors rest rows
  | .wild => fun _ => by
    refine ⟨[rest], by simp [defPat], ?_, ?_, ?_⟩
    · intro row hr; simp at hr; subst hr; exact hrest
    · intro v vs h; simpa [Pat.matches] using h
    · intro v c vargs vs _ _ _; simp [Pat.matches]
  | .or ps => fun hp => by
    obtain ⟨rows, hr, hres⟩ := defAlts_spec t ts' w hw rest hrest ps (hasTy_or hp).2
    refine ⟨rows, ?_, hres⟩
    rw [defPat, hr, Option.bind_some]
    exact checkShape_ok fun row hrow => by rw [hw, patsHaveTy_length (hres.typed row hrow)]
  | .bool _ | .u8 _ _ | .num _ _ | .enum _ _ _ | .tuple _ | .strct _ _ => fun hp =>
    defPat_ctor_spec t ts' w rest hp rfl
theorem defAlts_spec (t : Ty) (ts' : List Ty) (w : Nat) (hw : w = ts'.length) (rest : Row)
    (hrest : patsHaveTy rest ts' = true) :
    ∀ (ps : List Pat), allHaveTy ps t = true →
      ∃ rows, defAlts w ps rest = some rows ∧ DefRes t ts' (matchesAny ps) (rootCtorsL ps) rest rows
  | [] => fun _ => ⟨[], by simp [defAlts], by intro row hr; simp at hr, by intro v vs h; simp at h,
      by intros; simp [matchesAny]⟩
  | p :: ps => fun hp => by
    simp only [allHaveTy, Bool.and_eq_true] at hp
    obtain ⟨r1, h1, s1⟩ := defPat_spec t ts' w hw rest hrest p hp.1
    obtain ⟨r2, h2, s2⟩ := defAlts_spec t ts' w hw rest hrest ps hp.2
    refine ⟨r1 ++ r2, by simp [defAlts, h1, h2, bindRows], ?_, ?_, ?_⟩
    · exact fun row hr => (List.mem_append.mp hr).elim (s1.typed row) (s2.typed row)
    · intro v vs h
      rw [List.any_append, Bool.or_eq_true] at h
      rw [matchesAny, Bool.and_or_distrib_right, Bool.or_eq_true]
      exact h.imp (s1.sound v vs) (s2.sound v vs)
    · intro v c vargs vs hv ha hn
      simp only [rootCtorsL, List.mem_append, not_or] at hn
      rw [List.any_append, ← s1.sem v c vargs vs hv ha hn.1, ← s2.sem v c vargs vs hv ha hn.2, matchesAny,
        Bool.and_or_distrib_right]
end

theorem defRows_spec (t : Ty) (ts' : List Ty) (w : Nat) (hw : w = ts'.length) :
    ∀ (P : Matrix), rowsHaveTy P (t :: ts') →
      ∃ D, defRows w P = some D ∧ rowsHaveTy D ts' ∧
        (∀ v vs, (D.any fun row => matchesL row vs) = true → (P.any fun row => matchesL row (v :: vs)) = true) ∧
        (∀ hs, headCtors P = some hs → ∀ v c vargs vs, v.decomp t = some (c, vargs) →
          hasTyL vargs (t.argTys c) = true → c ∉ hs →
          (P.any fun row => matchesL row (v :: vs)) = (D.any fun row => matchesL row vs))
  | [] => fun _ => ⟨[], rfl, by intro r hr; simp at hr, by intro v vs h; simp at h, by intros; simp⟩
  | [] :: P => fun hP => absurd (hP [] List.mem_cons_self) Bool.false_ne_true
  | (p :: rest) :: P => fun hP => by
    have hrow := hP (p :: rest) (by simp)
    simp only [patsHaveTy, Bool.and_eq_true] at hrow
    obtain ⟨r1, h1, s1⟩ := defPat_spec t ts' w hw rest hrow.2 p hrow.1
    obtain ⟨r2, h2, t2, snd2, sem2⟩ := defRows_spec t ts' w hw P (fun r hr => hP r (by simp [hr]))
    refine ⟨r1 ++ r2, by simp [defRows, h1, h2, bindRows], ?_, ?_, ?_⟩
    · exact fun row hr => (List.mem_append.mp hr).elim (s1.typed row) (t2 row)
    · intro v vs h
      rw [List.any_append, Bool.or_eq_true] at h
      rw [List.any_cons, Bool.or_eq_true]
      rcases h with h | h
      · left; rw [matchesL]; exact s1.sound v vs h
      · right; exact snd2 v vs h
    · intro hs hhs v c vargs vs hv ha hn
      simp only [headCtors] at hhs
      cases hh : headCtors P with
      | none => simp [hh] at hhs
      | some hs' =>
        simp [hh] at hhs
        subst hhs
        simp only [List.mem_append, not_or] at hn
        rw [List.any_cons, List.any_append, ← s1.sem v c vargs vs hv ha hn.1,
          sem2 hs' hh v c vargs vs hv ha hn.2, matchesL]

theorem defaultMatrix_spec (t : Ty) (ts' : List Ty) (ht : t.inhab = true) (P : Matrix)
    (hP : rowsHaveTy P (t :: ts')) :
    ∃ D, defaultMatrix P (ts'.length + 1) = some D ∧ rowsHaveTy D ts' ∧
      ∀ hs c, headCtors P = some hs → t.isCtor c = true → c ∉ hs →
        ∀ qs, (Useful (t :: ts') P (.wild :: qs) ↔ Useful ts' D qs) := by
  obtain ⟨D, hD, hT, hsound, hsem⟩ := defRows_spec t ts' ts'.length rfl P hP
  refine ⟨D, ?_, hT, fun hs c hhs hc hcn qs => ?_⟩
  · unfold defaultMatrix
    rw [Nat.add_sub_cancel, hD, Option.bind_some]
    exact checkShape_ok fun row hr => patsHaveTy_length (hT row hr)
  · rw [useful_cons]
    constructor
    · rintro ⟨v, vs, -, hvs, -, hmq, hun⟩
      refine ⟨vs, hvs, hmq, any_false_iff.mp ?_⟩
      rw [← any_false_iff] at hun
      exact Bool.eq_false_iff.mpr fun h => Bool.false_ne_true (hun ▸ hsound v vs h)
    · rintro ⟨vs, hvs, hmq, hun⟩
      -- any value with root constructor `c` will do as the head
      obtain ⟨vargs, hargs⟩ := exists_vals _ (inhab_argTys ht hc)
      obtain ⟨v, hv, hdec⟩ := mkVal hc hargs
      refine ⟨v, vs, hv, hvs, rfl, hmq, any_false_iff.mp ?_⟩
      rw [hsem hs hhs v c vargs vs hdec hargs hcn, any_false_iff]
      exact hun

/-! ## Σ -/

theorem mem_dedupAux (c : Ctor) : ∀ (l acc : List Ctor), c ∈ dedupAux acc l ↔ c ∈ acc ∨ c ∈ l
  | [], acc => by simp [dedupAux]
  | d :: l, acc => by
    unfold dedupAux
    by_cases h : acc.contains d = true
    · have hd : d ∈ acc := List.contains_iff_mem.mp h
      rw [if_pos h, mem_dedupAux c l acc, List.mem_cons]
      exact ⟨Or.imp_right Or.inr, fun h' => h'.elim Or.inl fun h'' => h''.elim (fun e => Or.inl (e ▸ hd)) Or.inr⟩
    · rw [if_neg h, mem_dedupAux c l (d :: acc), List.mem_cons, List.mem_cons, or_assoc, or_left_comm]

theorem mem_dedup {c : Ctor} {l : List Ctor} : c ∈ dedup l ↔ c ∈ l := by
  simp [dedup, mem_dedupAux]

mutual
theorem rootCtors_isCtor (t : Ty) : ∀ (p : Pat), p.hasTy t = true → ∀ c ∈ p.rootCtors, t.isCtor c = true
  | .wild => fun _ _ hc => nomatch hc
  | .or ps => fun hp => rootCtorsL_isCtor t ps (hasTy_or hp).2
  | .bool _ | .u8 _ _ | .num _ _ | .enum _ _ _ | .tuple _ | .strct _ _ => fun hp =>
    fun _ hc => List.mem_singleton.mp hc ▸ (ctor_of_hasTy hp rfl).1
theorem rootCtorsL_isCtor (t : Ty) : ∀ (ps : List Pat), allHaveTy ps t = true → ∀ c ∈ rootCtorsL ps, t.isCtor c = true
  | [] => fun _ _ hc => nomatch hc
  | p :: ps => fun hp => by
    simp only [allHaveTy, Bool.and_eq_true] at hp
    intro c hc
    simp only [rootCtorsL, List.mem_append] at hc
    rcases hc with h | h
    · exact rootCtors_isCtor t p hp.1 c h
    · exact rootCtorsL_isCtor t ps hp.2 c h
end

theorem headCtors_spec (t : Ty) (ts' : List Ty) : ∀ (P : Matrix), rowsHaveTy P (t :: ts') →
    ∃ hs, headCtors P = some hs ∧ ∀ c ∈ hs, t.isCtor c = true
  | [] => fun _ => ⟨[], rfl, by simp⟩
  | [] :: P => fun hP => absurd (hP [] List.mem_cons_self) Bool.false_ne_true
  | (p :: rest) :: P => fun hP => by
    have hrow := hP (p :: rest) (by simp)
    simp only [patsHaveTy, Bool.and_eq_true] at hrow
    obtain ⟨hs, h1, h2⟩ := headCtors_spec t ts' P (fun r hr => hP r (by simp [hr]))
    refine ⟨p.rootCtors ++ hs, by simp [headCtors, h1], ?_⟩
    exact fun c hc => (List.mem_append.mp hc).elim (rootCtors_isCtor t p hrow.1 c) (h2 c)

/-! ## Complete signatures -/

theorem boolVals_spec : ∀ (sig : List Ctor), (∀ c ∈ sig, Ty.bool.isCtor c = true) →
    ∃ bs, boolVals sig = some bs ∧ ∀ b, b ∈ bs ↔ Ctor.bool b ∈ sig
  | [] => fun _ => ⟨[], rfl, fun _ => ⟨nofun, nofun⟩⟩
  | c :: sig => fun h => by
    obtain ⟨bs, h1, h2⟩ := boolVals_spec sig (fun c hc => h c (List.mem_cons_of_mem _ hc))
    cases isCtor_iff.mp (h c List.mem_cons_self) with
    | bool b0 =>
      refine ⟨b0 :: bs, by rw [boolVals, h1]; rfl, fun b => ?_⟩
      rw [List.mem_cons, List.mem_cons, h2 b, Ctor.bool.injEq]

theorem enumTags_spec (ts : List Ty) : ∀ (sig : List Ctor), (∀ c ∈ sig, (Ty.enum ts).isCtor c = true) →
    ∃ tags, enumTags sig = some tags ∧ ∀ k, k ∈ tags ↔ Ctor.enum ts.length k ∈ sig
  | [] => fun _ => ⟨[], rfl, fun _ => ⟨nofun, nofun⟩⟩
  | c :: sig => fun h => by
    obtain ⟨tags, h1, h2⟩ := enumTags_spec ts sig (fun c hc => h c (List.mem_cons_of_mem _ hc))
    cases isCtor_iff.mp (h c List.mem_cons_self) with
    | @enum _ k0 =>
      refine ⟨k0 :: tags, by rw [enumTags, h1]; rfl, fun k => ?_⟩
      rw [List.mem_cons, List.mem_cons, h2 k, Ctor.enum.injEq, eq_self, true_and]

theorem u8Ranges_spec : ∀ (sig : List Ctor), (∀ c ∈ sig, Ty.u8.isCtor c = true) →
    ∃ ks : List Nat, u8Ranges sig = some (ks.map fun k => (k, k)) ∧ (∀ k ∈ ks, k ≤ 255) ∧
      ∀ k, k ∈ ks ↔ Ctor.u8 k k ∈ sig
  | [] => fun _ => ⟨[], rfl, nofun, fun _ => ⟨nofun, nofun⟩⟩
  | c :: sig => fun h => by
    obtain ⟨ks, h1, h2, h3⟩ := u8Ranges_spec sig (fun c hc => h c (List.mem_cons_of_mem _ hc))
    cases isCtor_iff.mp (h c List.mem_cons_self) with
    | @u8 n hle =>
      refine ⟨n :: ks, by rw [u8Ranges, h1]; rfl, List.forall_mem_cons.mpr ⟨hle, h2⟩, fun k => ?_⟩
      rw [List.mem_cons, List.mem_cons, h3 k, Ctor.u8.injEq, and_self]

/-- A type with the single constructor `c0`: every Σ is `c0` repeated, and complete. -/
theorem isComplete_unique {t : Ty} {c0 : Ctor} {rest : List Ctor} (hs : ∀ c ∈ c0 :: rest, t.isCtor c = true)
    (huniq : ∀ c, t.isCtor c = true → c = c0)
    (hdef : isComplete (c0 :: rest) = some (rest.all fun d => d.same c0)) :
    ∃ b, isComplete (c0 :: rest) = some b ∧ (b = true ↔ ∀ c, t.isCtor c = true → c ∈ c0 :: rest) := by
  have h0 := hs c0 List.mem_cons_self
  refine ⟨true, ?_, iff_of_true rfl fun c hc => huniq c hc ▸ List.mem_cons_self⟩
  rw [hdef, List.all_eq_true.mpr]
  intro d hd
  rw [huniq d (hs d (List.mem_cons_of_mem _ hd))]
  exact (same_iff h0 h0).mpr rfl

theorem isComplete_spec (t : Ty) (ht : t.inhab = true) (sig : List Ctor)
    (hs : ∀ c ∈ sig, t.isCtor c = true) :
    ∃ b, isComplete sig = some b ∧ (b = true ↔ ∀ c, t.isCtor c = true → c ∈ sig) := by
  cases sig with
  | nil =>
    obtain ⟨v, hv⟩ := exists_val t ht
    obtain ⟨c, _, _, hc, _⟩ := decomp_of_hasTy hv
    exact ⟨false, rfl, iff_of_false Bool.false_ne_true fun h => List.not_mem_nil (h c hc)⟩
  | cons c0 rest =>
    cases isCtor_iff.mp (hs c0 List.mem_cons_self) with
    | bool b0 =>
      obtain ⟨bs, h1, h2⟩ := boolVals_spec _ hs
      refine ⟨bs.contains true && bs.contains false, by simp only [isComplete, h1, Option.map_some], ?_⟩
      simp only [Bool.and_eq_true, List.contains_iff_mem, h2]
      constructor
      · rintro ⟨ht, hf⟩ c hc
        cases isCtor_iff.mp hc with
        | bool b => cases b <;> assumption
      · intro h; exact ⟨h _ rfl, h _ rfl⟩
    | @u8 n hn =>
      obtain ⟨ks, h1, h2, h3⟩ := u8Ranges_spec _ hs
      obtain ⟨b, hb1, hb2⟩ := rangesEqual_u8 (List.ne_nil_of_mem ((h3 n).mpr List.mem_cons_self)) h2
      refine ⟨b, by simp only [isComplete, h1, Option.bind_some, hb1], ?_⟩
      rw [hb2]
      constructor
      · intro h c hc
        cases isCtor_iff.mp hc with
        | @u8 a ha => exact (h3 a).mp (h a ha)
      · intro h m hm; exact (h3 m).mpr (h _ (isCtor_iff.mpr (.u8 hm)))
    | @enum ts k0 t0 h0 =>
      obtain ⟨tags, h1, h2⟩ := enumTags_spec ts _ hs
      refine ⟨(List.range ts.length).all fun k => tags.contains k,
        by simp only [isComplete, h1, Option.map_some], ?_⟩
      simp only [List.all_eq_true, List.mem_range, List.contains_iff_mem, h2]
      constructor
      · intro h c hc
        cases isCtor_iff.mp hc with
        | @enum _ k _ hk => exact h k (List.getElem?_eq_some_iff.mp hk).1
      · intro h k hk; exact h _ (isCtor_iff.mpr (.enum (List.getElem?_eq_getElem hk)))
    | tuple | strct => exact isComplete_unique hs (fun c hc => by cases isCtor_iff.mp hc; rfl) rfl

theorem notPresent_some (t : Ty) (sig : List Ctor) (hne : sig ≠ [])
    (hs : ∀ c ∈ sig, t.isCtor c = true) (hinc : ¬ ∀ c, t.isCtor c = true → c ∈ sig) :
    notPresent sig ≠ none := by
  cases sig with
  | nil => exact absurd rfl hne
  | cons c0 rest =>
    cases isCtor_iff.mp (hs c0 List.mem_cons_self) with
    | bool b0 =>
      -- `true_found && false_found` would make Σ complete
      have hboth : ¬ ((b0 || rest.contains (.bool true)) &&
          (!b0 || (!rest.contains (.bool true) && rest.contains (.bool false)))) = true := by
        intro h
        apply hinc
        intro c hc
        cases isCtor_iff.mp hc with
        | bool b =>
          cases b0 <;> cases b
          · exact List.mem_cons_self
          · simp only [Bool.false_or, Bool.not_false, Bool.true_or, Bool.and_true] at h
            exact List.mem_cons_of_mem _ (List.contains_iff_mem.mp h)
          · simp only [Bool.true_or, Bool.not_true, Bool.false_or, Bool.true_and, Bool.and_eq_true] at h
            exact List.mem_cons_of_mem _ (List.contains_iff_mem.mp h.2)
          · exact List.mem_cons_self
      simp only [notPresent]
      rw [if_neg hboth]
      split <;> exact Option.some_ne_none _
    | @u8 n hn =>
      obtain ⟨ks, h1, h2, h3⟩ := u8Ranges_spec _ hs
      have hex := exclusionary_u8 (List.ne_nil_of_mem ((h3 n).mpr List.mem_cons_self)) h2
      cases he : exclusionary (ks.map fun k => (k, k)) (0, u8Max) with
      | none => exact absurd he hex
      | some gs => simp [notPresent, h1, he]
    | @enum ts k0 t0 h0 =>
      obtain ⟨tags, h1, _⟩ := enumTags_spec ts _ hs
      simp [notPresent, h1]
    | tuple | strct => exact Option.some_ne_none _

end SwayVerif.Usefulness
