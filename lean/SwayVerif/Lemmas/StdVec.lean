import SwayVerif.Model.StdVec
/-!
Helper lemmas for C27 (collections). Every mutation of the buffer overwrites a window of cells
(`splice`): a single write, the shifting loops of `remove` / `insert`, `fill`, `append`. The abstraction of
`{buf,cap,len}` is the prefix `buf.take len`, so each operation is a fact about `take` of a `splice`.
-/
namespace SwayVerif.StdVec
open SwayVerif.Word

variable {buf mid m1 m2 : List Nat} {a k x : Nat}

def splice (buf : List Nat) (a : Nat) (mid : List Nat) : List Nat :=
  buf.take a ++ mid ++ buf.drop (a + mid.length)

theorem length_splice (h : a + mid.length ≤ buf.length) : (splice buf a mid).length = buf.length := by
  simp only [splice, List.length_append, List.length_take, List.length_drop]; omega

theorem take_splice (h : a ≤ buf.length) : (splice buf a mid).take (a + mid.length) = buf.take a ++ mid :=
  List.take_left' (by rw [List.length_append, List.length_take, Nat.min_eq_left h])

theorem take_splice_of_le (h : k ≤ a) (ha : a ≤ buf.length) : (splice buf a mid).take k = buf.take k := by
  rw [splice, List.append_assoc, List.take_append_of_le_length (by rw [List.length_take]; omega), List.take_take,
    Nat.min_eq_left h]

theorem drop_splice (h : a ≤ buf.length) (k : Nat) :
    (splice buf a mid).drop (a + mid.length + k) = buf.drop (a + mid.length + k) := by
  rw [← List.drop_drop, ← List.drop_drop (l := buf)]
  exact congrArg _ (List.drop_left' (by rw [List.length_append, List.length_take, Nat.min_eq_left h]))

theorem set_eq_splice (h : a < buf.length) : buf.set a x = splice buf a [x] := by
  rw [List.set_eq_take_append_cons_drop, if_pos h]; simp [splice]

theorem splice_nil : splice buf a [] = buf := by simp [splice]

theorem splice_splice (h : a ≤ buf.length) :
    splice (splice buf a m1) (a + m1.length) m2 = splice buf a (m1 ++ m2) := by
  rw [splice, take_splice h, drop_splice h, splice, List.length_append, Nat.add_assoc]
  simp only [List.append_assoc]

theorem splice_splice' (h : a + m1.length ≤ buf.length) :
    splice (splice buf (a + m1.length) m2) a m1 = splice buf a (m1 ++ m2) := by
  have e : (splice buf (a + m1.length) m2).drop (a + m1.length) = m2 ++ buf.drop (a + m1.length + m2.length) := by
    rw [splice, List.append_assoc]
    exact List.drop_left' (by rw [List.length_take, Nat.min_eq_left h])
  rw [splice, take_splice_of_le (Nat.le_add_right _ _) h, e, splice, List.length_append, Nat.add_assoc]
  simp only [List.append_assoc]

/-! A window of one cell, with `1` for `[x].length`, which is how the loops meet it. -/

theorem splice_cons (h : a ≤ buf.length) : splice (splice buf a [x]) (a + 1) mid = splice buf a (x :: mid) :=
  splice_splice (m1 := [x]) h

theorem splice_cons' (h : a + 1 ≤ buf.length) : splice (splice buf (a + 1) mid) a [x] = splice buf a (x :: mid) :=
  splice_splice' (m1 := [x]) h

theorem drop_write (h : a ≤ buf.length) (k : Nat) : (splice buf a [x]).drop (a + 1 + k) = buf.drop (a + 1 + k) :=
  drop_splice (mid := [x]) h k

theorem length_write (h : a < buf.length) : (splice buf a [x]).length = buf.length :=
  length_splice (mid := [x]) h

theorem set_of_getElem? {l : List Nat} {i x : Nat} (h : l[i]? = some x) : l.set i x = l := by
  obtain ⟨hi, rfl⟩ := List.getElem?_eq_some_iff.mp h
  exact List.set_getElem_self hi

theorem insertIdx_eq_take_drop {x : Nat} : ∀ (l : List Nat) (k : Nat), k ≤ l.length →
    l.insertIdx k x = l.take k ++ x :: l.drop k
  | _, 0, _ => rfl
  | [], _ + 1, h => absurd h (Nat.not_succ_le_zero _)
  | a :: l, k + 1, h => by
    rw [List.insertIdx_succ_cons, insertIdx_eq_take_drop l k (Nat.le_of_succ_le_succ h)]; rfl

theorem read_ok (buf : List Nat) (i : Nat) (h : i < buf.length) : read buf i = .ok buf[i] := by
  simp [read, List.getElem?_eq_getElem h]

theorem write_ok (buf : List Nat) (i x : Nat) (h : i < buf.length) : write buf i x = .ok (buf.set i x) := by
  simp [write, h]

theorem write_splice (h : a < buf.length) : write buf a x = .ok (splice buf a [x]) := by
  rw [write_ok buf a x h, set_eq_splice h]

theorem removeLoop_ok : ∀ (n i : Nat) (buf : List Nat), i + n < buf.length →
    Vec.removeLoop n i buf = .ok (splice buf i ((buf.drop (i + 1)).take n)) := by
  intro n
  induction n with
  | zero => intro i buf _; rw [Vec.removeLoop, List.take_zero, splice_nil]; rfl
  | succ n ih =>
    intro i buf h
    have h1 : i + 1 < buf.length := by omega
    have h2 : i < buf.length := by omega
    rw [Vec.removeLoop, read_ok buf (i + 1) h1, Res.ok_bind, write_splice h2, Res.ok_bind,
      ih _ _ (by rw [length_write h2]; omega), drop_write (by omega) 1, splice_cons (by omega),
      List.drop_eq_getElem_cons h1, List.take_succ_cons]

/-- the index of `insertLoop` counts down, from `k + n` to `k` -/
theorem insertLoop_ok : ∀ (n k : Nat) (buf : List Nat), k + n < buf.length →
    Vec.insertLoop n (k + n) buf = .ok (splice buf (k + 1) ((buf.drop k).take n)) := by
  intro n
  induction n with
  | zero => intro k buf _; rw [Vec.insertLoop, List.take_zero, splice_nil]; rfl
  | succ n ih =>
    intro k buf h
    have h1 : k + n < buf.length := by omega
    have hk : k + n + 1 = k + 1 + ((buf.drop k).take n).length := by
      rw [List.length_take, List.length_drop]; omega
    -- the cells below the one just written are still those of `buf`
    have hB : ∀ y, ((splice buf (k + n + 1) [y]).drop k).take n = (buf.drop k).take n := fun y => by
      rw [← Nat.add_sub_cancel_left (n := k) (m := n), ← List.drop_take, take_splice_of_le (by omega) (by omega),
        List.drop_take]
    have hlast : (buf.drop k).take n ++ [buf[k + n]] = (buf.drop k).take (n + 1) := by
      rw [← List.getElem_drop (h := by rw [List.length_drop]; omega), List.take_append_getElem]
    rw [← Nat.add_assoc, Vec.insertLoop, Nat.add_sub_cancel, read_ok buf (k + n) h1, Res.ok_bind,
      write_splice (by omega), Res.ok_bind, ih _ _ (by rw [length_write (by omega)]; omega), hB, ← hlast, hk,
      splice_splice' (by omega)]

theorem fillLoop_ok : ∀ (n a x : Nat) (buf : List Nat), a + n ≤ buf.length →
    Vec.fillLoop n a x buf = .ok (splice buf a (List.replicate n x)) := by
  intro n
  induction n with
  | zero => intro a x buf _; rw [Vec.fillLoop, List.replicate_zero, splice_nil]; rfl
  | succ n ih =>
    intro a x buf h
    have h1 : a < buf.length := by omega
    rw [Vec.fillLoop, write_splice h1, Res.ok_bind, ih _ _ _ (by rw [length_write h1]; omega),
      splice_cons (by omega), List.replicate_succ]

theorem iterFrom_ok (buf : List Nat) : ∀ (n i : Nat), i + n ≤ buf.length →
    Vec.iterFrom buf n i = .ok ((buf.drop i).take n) := by
  intro n
  induction n with
  | zero => intro i _; simp [Vec.iterFrom]
  | succ n ih =>
    intro i h
    have hi : i < buf.length := by omega
    simp only [Vec.iterFrom, read_ok buf i hi, Res.ok_bind, ih (i + 1) (by omega)]
    rw [List.drop_eq_getElem_cons hi, List.take_succ_cons]
    rfl

/-! ## representation invariant and abstraction -/

theorem len_le_length {v : Vec} (h : inv v) : v.len ≤ v.buf.length := h.2 ▸ h.1

theorem abs_length (v : Vec) (h : inv v) : (abs v).length = v.len := by
  rw [abs, List.length_take, Nat.min_eq_left (len_le_length h)]

theorem take_abs (v : Vec) (h : inv v) : (abs v).take v.len = abs v :=
  List.take_of_length_le (Nat.le_of_eq (abs_length v h))

/-- writing a window that starts inside the contents and ends at the new length `n` -/
theorem window (v : Vec) (h : inv v) {a n : Nat} {mid : List Nat} (ha : a ≤ v.len) (hn : a + mid.length = n)
    (hfit : n ≤ v.cap) :
    inv ⟨splice v.buf a mid, v.cap, n⟩ ∧ abs ⟨splice v.buf a mid, v.cap, n⟩ = (abs v).take a ++ mid := by
  subst hn
  obtain ⟨h1, h2⟩ := h
  refine ⟨⟨hfit, by rw [length_splice (by omega), h2]⟩, ?_⟩
  rw [abs, take_splice (by omega), abs, List.take_take, Nat.min_eq_left ha]

theorem read_abs (v : Vec) (h : inv v) (j : Nat) :
    (j < v.len → ∃ x, (abs v)[j]? = some x ∧ read v.buf j = .ok x) ∧ (¬ j < v.len → (abs v)[j]? = none) := by
  rw [abs, List.getElem?_take]
  refine ⟨fun c => ?_, fun c => if_neg c⟩
  have hj : j < v.buf.length := Nat.lt_of_lt_of_le c (len_le_length h)
  exact ⟨v.buf[j], by rw [if_pos c, List.getElem?_eq_getElem hj], read_ok _ _ hj⟩

theorem realloc_eq {buf : List Nat} {c n : Nat} (hl : buf.length = c) (h : c < n) :
    realloc buf c n = buf ++ List.replicate (n - c) 0 := by
  subst hl
  simp only [realloc, h, if_true, alloc]
  split
  · rw [List.take_length]
  · rw [List.eq_nil_of_length_eq_zero (by omega : buf.length = 0)]; rfl

/-- what `if self.buf.cap < n { realloc }` achieves: room for `n` cells, same contents -/
theorem reserve (v : Vec) (n : Nat) (h : inv v) :
    let v1 : Vec := if v.cap < n then ⟨realloc v.buf v.cap n, n, v.len⟩ else v
    inv v1 ∧ v1.len = v.len ∧ n ≤ v1.cap ∧ abs v1 = abs v := by
  obtain ⟨h1, h2⟩ := h
  by_cases c : v.cap < n
  · rw [if_pos c, realloc_eq h2 c]
    refine ⟨⟨by show v.len ≤ n; omega, ?_⟩, rfl, Nat.le_refl n,
      List.take_append_of_le_length (by show v.len ≤ v.buf.length; omega)⟩
    show (v.buf ++ List.replicate (n - v.cap) 0).length = n
    rw [List.length_append, List.length_replicate]; omega
  · rw [if_neg c]
    exact ⟨⟨h1, h2⟩, rfl, by omega, rfl⟩

/-- what `if self.len == self.buf.cap { self.buf.grow() }` achieves -/
theorem room (v : Vec) (h : inv v) :
    let v1 := if v.len = v.cap then Vec.grow v else v
    inv v1 ∧ v1.len = v.len ∧ v.len < v1.cap ∧ abs v1 = abs v := by
  by_cases c : v.len = v.cap
  · have hlt : v.cap < (if v.cap = 0 then 1 else 2 * v.cap) := by split <;> omega
    have := reserve v (if v.cap = 0 then 1 else 2 * v.cap) h
    rw [if_pos hlt] at this
    rw [if_pos c]
    exact ⟨this.1, this.2.1, by show v.len < (if v.cap = 0 then 1 else 2 * v.cap); omega, this.2.2.2⟩
  · rw [if_neg c]
    exact ⟨h, rfl, by have := h.1; omega, rfl⟩

/-! ## every operation refines its `List` counterpart -/

theorem assert_decide_true {p : Prop} [Decidable p] (h : p) : assert (decide p) = .ok () := by
  rw [decide_eq_true h]; rfl

theorem assert_decide_false {p : Prop} [Decidable p] (h : ¬ p) : assert (decide p) = .revert FAILED_ASSERT := by
  rw [decide_eq_false h]; rfl

def StepOk (v : Vec) (op : Op) : Prop :=
  match specStep (abs v) op with
  | some (l', o) => ∃ v', step v op = .ok (v', o) ∧ inv v' ∧ abs v' = l'
  | none => step v op = .revert FAILED_ASSERT

theorem push_step (v : Vec) (x : Nat) (h : inv v) : StepOk v (.push x) := by
  obtain ⟨h1, hl, hlt, ha⟩ := room v h
  show ∃ v', (Vec.push v x >>= fun v => pure (v, [v.len])) = .ok (v', [(abs v).length + 1]) ∧
    inv v' ∧ abs v' = abs v ++ [x]
  simp only [Vec.push]
  generalize (if v.len = v.cap then Vec.grow v else v) = v1 at *
  obtain ⟨hi, ha'⟩ := window v1 h1 (mid := [x]) (Nat.le_refl _) rfl (by rw [hl]; exact hlt)
  rw [write_splice (by rw [h1.2, hl]; exact hlt), abs_length v h, ← hl]
  exact ⟨_, rfl, hi, ha'.trans (by rw [take_abs v1 h1, ha])⟩

theorem get_step (v : Vec) (i : Nat) (h : inv v) : StepOk v (.get i) := by
  refine ⟨v, ?_, h, rfl⟩
  show (Vec.get v i >>= fun r => pure (v, optObs r)) = _
  rw [Vec.get]
  by_cases c : i < v.len
  · obtain ⟨x, e1, e2⟩ := (read_abs v h i).1 c
    rw [if_neg (by omega), e1, e2]; rfl
  · rw [if_pos (by omega), (read_abs v h i).2 c]; rfl

theorem last_step (v : Vec) (h : inv v) : StepOk v .last := by
  refine ⟨v, ?_, h, rfl⟩
  show (Vec.last v >>= fun r => pure (v, optObs r)) = _
  rw [Vec.last, List.getLast?_eq_getElem?, abs_length v h]
  by_cases c : v.len = 0
  · rw [if_pos c, (read_abs v h _).2 (by omega)]; rfl
  · obtain ⟨x, e1, e2⟩ := (read_abs v h (v.len - 1)).1 (by omega)
    rw [if_neg c, e1, e2]; rfl

theorem pop_step (v : Vec) (h : inv v) : StepOk v .pop := by
  show ∃ v', (Vec.pop v >>= fun p => pure (p.1, optObs p.2)) = .ok (v', optObs (abs v).getLast?) ∧
    inv v' ∧ abs v' = (abs v).dropLast
  rw [Vec.pop, List.getLast?_eq_getElem?, List.dropLast_eq_take, abs_length v h]
  by_cases c : v.len = 0
  · rw [if_pos c, (read_abs v h _).2 (by omega)]
    exact ⟨v, rfl, h, by rw [c, abs, c]; rfl⟩
  · obtain ⟨x, e1, e2⟩ := (read_abs v h (v.len - 1)).1 (by omega)
    rw [if_neg c, e1, e2]
    exact ⟨_, rfl, ⟨by have := h.1; show v.len - 1 ≤ v.cap; omega, h.2⟩,
      by rw [abs, abs, List.take_take, Nat.min_eq_left (Nat.sub_le _ _)]⟩

theorem iter_step (v : Vec) (h : inv v) : StepOk v .iter := by
  refine ⟨v, ?_, h, rfl⟩
  show (Vec.iter v >>= fun xs => pure (v, xs ++ [v.len])) = _
  rw [Vec.iter, iterFrom_ok v.buf v.len 0 (by rw [Nat.zero_add]; exact len_le_length h), abs_length v h]
  rfl

theorem set_step (v : Vec) (i x : Nat) (h : inv v) : StepOk v (.set i x) := by
  have hs : step v (.set i x) = (Vec.set v i x >>= fun v => pure (v, [v.len])) := rfl
  by_cases c : i < v.len
  · simp only [StepOk, specStep, abs_length v h, if_pos c]
    have hi : i < v.buf.length := Nat.lt_of_lt_of_le c (len_le_length h)
    rw [hs, Vec.set, assert_decide_true c, Res.ok_bind, write_ok _ _ _ hi]
    exact ⟨_, rfl, ⟨h.1, by show (v.buf.set i x).length = v.cap; rw [List.length_set, h.2]⟩, List.take_set⟩
  · simp only [StepOk, specStep, abs_length v h, if_neg c]
    rw [hs, Vec.set, assert_decide_false c]; rfl

theorem swap_step (v : Vec) (i j : Nat) (h : inv v) : StepOk v (.swap i j) := by
  have hs : step v (.swap i j) = (Vec.swap v i j >>= fun v => pure (v, [v.len])) := rfl
  have hb := len_le_length h
  by_cases ci : i < v.len
  · obtain ⟨x, ei, ri⟩ := (read_abs v h i).1 ci
    by_cases cj : j < v.len
    · obtain ⟨y, ej, rj⟩ := (read_abs v h j).1 cj
      simp only [StepOk, specStep, ei, ej, abs_length v h]
      rw [hs, Vec.swap, assert_decide_true ci, assert_decide_true cj]
      by_cases c : i = j
      · subst c
        rw [if_pos rfl]
        exact ⟨v, rfl, h, by rw [List.set_set, set_of_getElem? ei]⟩
      · rw [if_neg c, Res.ok_bind, Res.ok_bind, ri, rj, Res.ok_bind, Res.ok_bind, write_ok _ _ _ (by omega),
          Res.ok_bind, write_ok _ _ _ (by rw [List.length_set]; omega)]
        exact ⟨_, rfl, ⟨h.1, by rw [List.length_set, List.length_set, h.2]⟩,
          by rw [abs, abs, List.take_set, List.take_set]⟩
    · simp only [StepOk, specStep, ei, (read_abs v h j).2 cj]
      rw [hs, Vec.swap, assert_decide_true ci, assert_decide_false cj]; rfl
  · simp only [StepOk, specStep, (read_abs v h i).2 ci]
    rw [hs, Vec.swap, assert_decide_false ci]; rfl

theorem insert_step (v : Vec) (i x : Nat) (h : inv v) : StepOk v (.insert i x) := by
  have hs : step v (.insert i x) = (Vec.insert v i x >>= fun v => pure (v, [v.len])) := rfl
  by_cases c : i ≤ v.len
  · simp only [StepOk, specStep, abs_length v h, if_pos c]
    obtain ⟨h1, hl, hlt, ha⟩ := room v h
    rw [hs]; simp only [Vec.insert]
    generalize (if v.len = v.cap then Vec.grow v else v) = v1 at *
    have hb : v1.len < v1.buf.length := by rw [h1.2, hl]; exact hlt
    -- the loop opens a gap at `i`, the write fills it
    have hn : ((v1.buf.drop i).take (v1.len - i)).length = v1.len - i := by
      rw [List.length_take, List.length_drop]; omega
    have hloop := insertLoop_ok (v1.len - i) i v1.buf (by omega)
    rw [Nat.add_sub_cancel' (hl ▸ c)] at hloop
    rw [assert_decide_true c, Res.ok_bind, hloop, Res.ok_bind, write_splice (by rw [length_splice (by omega)]; omega),
      splice_cons' (by omega)]
    obtain ⟨hi, ha'⟩ := window v1 h1 (a := i) (n := v1.len + 1) (mid := x :: (v1.buf.drop i).take (v1.len - i))
      (by omega) (by rw [List.length_cons, hn]; omega) (by omega)
    refine ⟨_, by rw [hl]; rfl, hi, ?_⟩
    rw [ha', insertIdx_eq_take_drop _ _ (by rw [abs_length v h]; exact c), ← ha, abs, List.drop_take]
  · simp only [StepOk, specStep, abs_length v h, if_neg c]
    rw [hs, Vec.insert, assert_decide_false c]; rfl

theorem remove_step (v : Vec) (i : Nat) (h : inv v) : StepOk v (.remove i) := by
  have hs : step v (.remove i) = (Vec.remove v i >>= fun p => pure (p.1, [p.2])) := rfl
  have hb := len_le_length h
  by_cases c : i < v.len
  · obtain ⟨x, e, r⟩ := (read_abs v h i).1 c
    simp only [StepOk, specStep, e]
    have hn : ((v.buf.drop (i + 1)).take (v.len - 1 - i)).length = v.len - 1 - i := by
      rw [List.length_take, List.length_drop]; omega
    obtain ⟨hi, ha⟩ := window v h (a := i) (n := v.len - 1) (mid := (v.buf.drop (i + 1)).take (v.len - 1 - i))
      (by omega) (by rw [hn]; omega) (by have := h.1; omega)
    replace ha := ha.trans (show _ = (abs v).eraseIdx i by
      rw [List.eraseIdx_eq_take_drop_succ, abs, List.drop_take, show v.len - 1 - i = v.len - (i + 1) by omega])
    rw [hs]; simp only [Vec.remove, assert_decide_true c, Res.ok_bind, r]
    by_cases c1 : 1 < v.len
    · rw [if_pos c1, removeLoop_ok _ _ _ (by omega)]
      exact ⟨_, rfl, hi, ha⟩
    · -- a single element: the loop is not entered and has nothing to do
      rw [show v.len - 1 - i = 0 by omega, List.take_zero, splice_nil] at hi ha
      rw [if_neg c1]
      exact ⟨_, rfl, hi, ha⟩
  · simp only [StepOk, specStep, (read_abs v h i).2 c]
    rw [hs, Vec.remove, assert_decide_false c]; rfl

theorem resize_step (v : Vec) (n x : Nat) (h : inv v) : StepOk v (.resize n x) := by
  show ∃ v', (Vec.resize v n x >>= fun v => pure (v, [v.len])) = .ok (v', [n]) ∧ inv v' ∧
    abs v' = if n ≤ (abs v).length then (abs v).take n else abs v ++ List.replicate (n - (abs v).length) x
  rw [abs_length v h]
  by_cases c : n ≤ v.len
  · rw [Vec.resize, if_pos c, if_pos c]
    exact ⟨_, rfl, ⟨Nat.le_trans c h.1, h.2⟩, by rw [abs, abs, List.take_take, Nat.min_eq_left c]⟩
  · obtain ⟨h1, hl, hcap, ha⟩ := reserve v n h
    rw [if_neg c]; simp only [Vec.resize, if_neg c]
    generalize (if v.cap < n then (⟨realloc v.buf v.cap n, n, v.len⟩ : Vec) else v) = v1 at *
    obtain ⟨hi, ha'⟩ := window v1 h1 (a := v1.len) (n := n) (mid := List.replicate (n - v1.len) x) (Nat.le_refl _)
      (by rw [List.length_replicate]; omega) hcap
    rw [fillLoop_ok _ _ _ _ (by rw [h1.2]; omega)]
    exact ⟨_, rfl, hi, by rw [ha', take_abs v1 h1, ha, hl]⟩

theorem append_step (v : Vec) (xs : List Nat) (h : inv v) : StepOk v (.append xs) := by
  show ∃ v', (appendBytes v xs >>= fun v => pure (v, [v.len])) = .ok (v', [(abs v).length + xs.length]) ∧ inv v' ∧
    abs v' = abs v ++ xs
  rw [abs_length v h, appendBytes]
  by_cases c : xs.length = 0
  · rw [if_pos c, List.eq_nil_of_length_eq_zero c]
    exact ⟨v, rfl, h, (List.append_nil _).symm⟩
  · obtain ⟨h1, hl, hcap, ha⟩ := reserve v (v.len + xs.length) h
    rw [if_neg c]; simp only []
    generalize (if v.cap < v.len + xs.length then
      (⟨realloc v.buf v.cap (v.len + xs.length), v.len + xs.length, v.len⟩ : Vec) else v) = v1 at *
    obtain ⟨hi, ha'⟩ := window v1 h1 (a := v1.len) (mid := xs) (Nat.le_refl _) (hl ▸ rfl) hcap
    rw [if_pos (by rw [h1.2]; omega)]
    exact ⟨_, rfl, hi, by rw [← ha, ← take_abs v1 h1]; exact ha'⟩

theorem splitAt_step (v : Vec) (mid : Nat) (h : inv v) : StepOk v (.splitAt mid) := by
  have hs : step v (.splitAt mid) =
      (splitAtBytes v mid >>= fun p => pure (v, p.1 ++ [p.1.length] ++ p.2 ++ [p.2.length])) := rfl
  by_cases c : mid ≤ v.len
  · simp only [StepOk, specStep, abs_length v h, if_pos c]
    refine ⟨v, ?_, h, rfl⟩
    rw [hs, splitAtBytes, assert_decide_true c, Res.ok_bind, if_pos (len_le_length h)]
    simp only [Res.pure_eq, Res.ok_bind, abs, List.take_take, Nat.min_eq_left c, List.drop_take, List.length_take,
      List.length_drop, Nat.min_eq_left (Nat.le_trans c (len_le_length h)),
      Nat.min_eq_left (Nat.sub_le_sub_right (len_le_length h) mid)]
  · simp only [StepOk, specStep, abs_length v h, if_neg c]
    rw [hs, splitAtBytes, assert_decide_false c]; rfl

end SwayVerif.StdVec
