import SwayVerif.Model.AsmOpt
/-!
List facts for C07. `labelIndex` is the position of the last label op of that name (`lastLabel`).
After deleting ops by a mask, a kept op `i` stands at `newPos ks i`, and a label whose op is kept
resolves to the new position of that op. The zips the checkers iterate over are `zipIdx` of a `zip`.
-/
namespace SwayVerif.AsmOpt
open SwayVerif.Asm

theorem lt_length_of_getElem? {α : Type} {l : List α} {i : Nat} {a : α} (h : l[i]? = some a) :
    i < l.length := (List.getElem?_eq_some_iff.1 h).1

theorem getElem?_of_length {α β : Type} {l : List α} {l' : List β} {i : Nat} {a : α}
    (hlen : l'.length = l.length) (h : l[i]? = some a) : ∃ b, l'[i]? = some b :=
  ⟨l'[i]'(hlen ▸ lt_length_of_getElem? h), List.getElem?_eq_getElem _⟩

theorem memR_iff {r : Reg} {s : RSet} : memR r s = true ↔ r ∈ s := List.contains_iff_mem

/-! ### `labelIndex` = position of the last label op with that name -/

def lastLabel (l : Nat) : List AOp → Option Nat
  | [] => none
  | op :: ops =>
    match lastLabel l ops with
    | some j => some (j + 1)
    | none => if op.kind = .label l then some 0 else none

theorem labelIndexFrom_eq (l : Nat) (ops : List AOp) (i : Nat) (acc : Option Nat) :
    labelIndexFrom l ops i acc = match lastLabel l ops with
      | some j => some (i + j)
      | none => acc := by
  induction ops generalizing i acc with
  | nil => rfl
  | cons op ops ih =>
    cases hl : lastLabel l ops with
    | some j => simp only [labelIndexFrom, lastLabel, ih, hl, Nat.add_assoc, Nat.add_comm 1]
    | none =>
      by_cases hk : op.kind = .label l
      · simp only [labelIndexFrom, lastLabel, ih, hl, if_pos hk, Nat.add_zero]
      · simp only [labelIndexFrom, lastLabel, ih, hl, if_neg hk]

theorem labelIndex_eq (P : List AOp) (l : Nat) : labelIndex P l = lastLabel l P := by
  rw [labelIndex, labelIndexFrom_eq]
  cases lastLabel l P with
  | none => rfl
  | some j => simp only [Nat.zero_add]

theorem lastLabel_some {l : Nat} {P : List AOp} {t : Nat} (h : lastLabel l P = some t) :
    ∃ op, P[t]? = some op ∧ op.kind = .label l := by
  induction P generalizing t with
  | nil => cases h
  | cons op ops ih =>
    simp only [lastLabel] at h
    cases h' : lastLabel l ops with
    | some j =>
      rw [h'] at h
      cases h
      exact ih h'
    | none =>
      rw [h'] at h
      by_cases hk : op.kind = .label l
      · rw [if_pos hk] at h
        cases h
        exact ⟨op, rfl, hk⟩
      · rw [if_neg hk] at h
        cases h

theorem labelIndex_some {l : Nat} {P : List AOp} {t : Nat} (h : labelIndex P l = some t) :
    ∃ op, P[t]? = some op ∧ op.kind = .label l :=
  lastLabel_some (labelIndex_eq P l ▸ h)

theorem labelIndex_congr {l : Nat} {P Q : List AOp} (hlen : Q.length = P.length)
    (h : ∀ (i : Nat) (op q : AOp), P[i]? = some op → Q[i]? = some q →
      (op.kind = .label l ↔ q.kind = .label l)) :
    labelIndex Q l = labelIndex P l := by
  rw [labelIndex_eq, labelIndex_eq]
  induction P generalizing Q with
  | nil =>
    cases Q with
    | nil => rfl
    | cons _ _ => cases hlen
  | cons op ops ih =>
    cases Q with
    | nil => cases hlen
    | cons q qs =>
      have ih' := ih (Nat.succ.inj hlen) (fun i o1 o2 h1 h2 => h (i + 1) o1 o2 h1 h2)
      simp only [lastLabel, ih', h 0 op q rfl rfl]

/-! ### `filterMask`, `newPos` -/

theorem filterMask_nil (ks : List Bool) : filterMask [] ks = [] := by cases ks <;> rfl

theorem filterMask_cons_true (a : AOp) (P : List AOp) (ks : List Bool) :
    filterMask (a :: P) (true :: ks) = a :: filterMask P ks := rfl

theorem filterMask_cons_false (a : AOp) (P : List AOp) (ks : List Bool) :
    filterMask (a :: P) (false :: ks) = filterMask P ks := rfl

theorem newPos_zero (ks : List Bool) : newPos ks 0 = 0 := by cases ks <;> rfl

theorem newPos_cons_true (ks : List Bool) (i : Nat) : newPos (true :: ks) (i + 1) = newPos ks i + 1 :=
  Nat.add_comm 1 _

theorem newPos_cons_false (ks : List Bool) (i : Nat) : newPos (false :: ks) (i + 1) = newPos ks i :=
  Nat.zero_add _

theorem newPos_succ {ks : List Bool} {i : Nat} {k : Bool} (h : ks[i]? = some k) :
    newPos ks (i + 1) = newPos ks i + (if k then 1 else 0) := by
  induction ks generalizing i with
  | nil => cases h
  | cons a ks ih =>
    cases i with
    | zero =>
      cases h
      simp only [newPos, newPos_zero, Nat.zero_add, Nat.add_zero]
    | succ i =>
      rw [newPos, newPos, ih h, Nat.add_assoc]

theorem filterMask_getElem? {P : List AOp} {ks : List Bool} {i : Nat} (hlen : ks.length = P.length)
    (h : ks[i]? = some true ∨ P.length ≤ i) : (filterMask P ks)[newPos ks i]? = P[i]? := by
  induction P generalizing ks i with
  | nil => rw [filterMask_nil]; rfl
  | cons a ops ih =>
    cases ks with
    | nil => cases hlen
    | cons k ks =>
      cases i with
      | zero =>
        rcases h with h | h
        · cases h; rfl
        · cases h
      | succ i =>
        have := ih (i := i) (Nat.succ.inj hlen) (h.imp id Nat.le_of_succ_le_succ)
        cases k
        · rw [filterMask_cons_false, newPos_cons_false]; exact this
        · rw [filterMask_cons_true, newPos_cons_true]; exact this

theorem lastLabel_filter {l : Nat} {P : List AOp} {ks : List Bool} (hlen : ks.length = P.length)
    (h : ∀ t, lastLabel l P = some t → ks[t]? = some true) :
    lastLabel l (filterMask P ks) = (lastLabel l P).map (newPos ks) := by
  induction P generalizing ks with
  | nil => rw [filterMask_nil]; rfl
  | cons op ops ih =>
    cases ks with
    | nil => cases hlen
    | cons k ks =>
      simp only [lastLabel] at h
      cases hl : lastLabel l ops with
      | some j =>
        have ih' := ih (Nat.succ.inj hlen) (fun t ht => h (t + 1) (by rw [ht]))
        rw [hl] at ih'
        cases k
        · simp only [filterMask_cons_false, lastLabel, hl, ih', Option.map_some, newPos_cons_false]
        · simp only [filterMask_cons_true, lastLabel, hl, ih', Option.map_some, newPos_cons_true]
      | none =>
        have ih' := ih (ks := ks) (Nat.succ.inj hlen) (fun t ht => by rw [hl] at ht; cases ht)
        rw [hl] at ih' h
        by_cases hk : op.kind = .label l
        · cases (h 0 (by rw [if_pos hk])).symm.trans List.getElem?_cons_zero
          simp only [filterMask_cons_true, lastLabel, hl, ih', if_pos hk, Option.map_none, Option.map_some, newPos_zero]
        · cases k
          · simp only [filterMask_cons_false, lastLabel, hl, ih', if_neg hk, Option.map_none]
          · simp only [filterMask_cons_true, lastLabel, hl, ih', if_neg hk, Option.map_none]

theorem labelIndex_filter {l : Nat} {P : List AOp} {ks : List Bool} (hlen : ks.length = P.length)
    (h : ∀ t, labelIndex P l = some t → ks[t]? = some true) :
    labelIndex (filterMask P ks) l = (labelIndex P l).map (newPos ks) := by
  rw [labelIndex_eq] at h ⊢
  rw [labelIndex_eq]
  exact lastLabel_filter hlen h

theorem filterMask_all_true (P : List AOp) : filterMask P (P.map fun _ => true) = P := by
  induction P with
  | nil => rfl
  | cons a ops ih => rw [List.map_cons, filterMask_cons_true, ih]

theorem filterMask_length_le (P : List AOp) (ks : List Bool) : (filterMask P ks).length ≤ P.length := by
  induction P generalizing ks with
  | nil => rw [filterMask_nil]; exact Nat.le_refl _
  | cons a ops ih =>
    cases ks with
    | nil => exact Nat.zero_le _
    | cons k ks =>
      cases k
      · exact Nat.le_succ_of_le (ih ks)
      · exact Nat.succ_le_succ (ih ks)

/-! ### the indexed zips of the checkers -/

theorem zip3_go_eq (P : List AOp) (ks : List Bool) (j : Nat) : zip3.go P ks j = (P.zip ks).zipIdx j := by
  induction P generalizing ks j with
  | nil => rfl
  | cons a P ih =>
    cases ks with
    | nil => rfl
    | cons k ks => rw [zip3.go, ih, List.zip_cons_cons, List.zipIdx_cons]

theorem mem_zip3 {P : List AOp} {ks : List Bool} {i : Nat} {op : AOp} {k : Bool}
    (hp : P[i]? = some op) (hk : ks[i]? = some k) : ((op, k), i) ∈ zip3 P ks := by
  rw [zip3, zip3_go_eq, List.mk_mem_zipIdx_iff_getElem?, List.getElem?_zip_eq_some]
  exact ⟨hp, hk⟩

theorem zipQ_go_eq (P Q : List AOp) (j : Nat) : zipQ.go P Q j = (P.zip Q).zipIdx j := by
  induction P generalizing Q j with
  | nil => rfl
  | cons a P ih =>
    cases Q with
    | nil => rfl
    | cons q Q => rw [zipQ.go, ih, List.zip_cons_cons, List.zipIdx_cons]

theorem mem_zipQ {P Q : List AOp} {i : Nat} {op q : AOp}
    (hp : P[i]? = some op) (hq : Q[i]? = some q) : ((op, q), i) ∈ zipQ P Q := by
  rw [zipQ, zipQ_go_eq, List.mk_mem_zipIdx_iff_getElem?, List.getElem?_zip_eq_some]
  exact ⟨hp, hq⟩

end SwayVerif.AsmOpt
