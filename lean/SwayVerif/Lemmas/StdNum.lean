import SwayVerif.Model.StdNum
import Mathlib.Algebra.Group.Nat.Defs
/-!
Lemmas for C27 (numerics). Each transcription of `Model/StdNum.lean` that `Props/C27.lean` speaks of is
characterised by an equation `f fl x = if ‹the exact result fits› then .ok ‹it› else ‹the failure›`. The suffix
names the flags it holds for: none = any flags, `_nowrap` = `F_WRAPPING` clear, `_wrapping` = `F_WRAPPING` set,
`_safe` = `F_UNSAFEMATH` clear, `_dflt` = both clear (`{}`).
-/
namespace SwayVerif.StdNum
open SwayVerif.Word

/-! ## single instructions -/

theorem overflowingAdd_eq (fl : Flags) (x y : Nat) :
    overflowingAdd fl x y = .ok ⟨(x + y) / W64 % W64, (x + y) % W64⟩ := by
  simp [overflowingAdd, disablePanicOnOverflow, Word.add, capture]

theorem overflowingMul_eq (fl : Flags) (x y : Nat) :
    overflowingMul fl x y = .ok ⟨(x * y) / W64 % W64, (x * y) % W64⟩ := by
  simp [overflowingMul, disablePanicOnOverflow, Word.mul, capture]

@[simp] theorem panicOnOverflowEnabled_dflt : panicOnOverflowEnabled {} = true := rfl
@[simp] theorem panicOnUnsafeMathEnabled_dflt : panicOnUnsafeMathEnabled {} = true := rfl

section nowrap
variable {fl : Flags} (hw : fl.wrapping = false)
include hw

theorem panicOnOverflowEnabled_nowrap : panicOnOverflowEnabled fl = true := by
  rw [panicOnOverflowEnabled, hw]; rfl

theorem capture_nowrap (r : Nat) :
    (do let o ← capture fl r; pure o.val) = if r < W64 then .ok r else .panic .arithmeticOverflow := by
  unfold capture
  by_cases h : r < W64
  · simp [h, Nat.not_le.mpr h, Nat.mod_eq_of_lt h]
  · simp [h, Nat.not_lt.mp h, hw]

theorem u64Add_nowrap (a b : Nat) :
    u64Add fl a b = if a + b < W64 then .ok (a + b) else .panic .arithmeticOverflow := capture_nowrap hw (a + b)

theorem u64Mul_nowrap (a b : Nat) :
    u64Mul fl a b = if a * b < W64 then .ok (a * b) else .panic .arithmeticOverflow := capture_nowrap hw (a * b)

theorem u64Sub_nowrap (a b : Nat) :
    u64Sub fl a b = if b ≤ a then .ok (a - b) else .panic .arithmeticOverflow := by
  unfold u64Sub Word.sub
  by_cases h : b ≤ a
  · simp [h, Nat.not_lt.mpr h]
  · simp [h, Nat.not_le.mp h, hw]

end nowrap

theorem u64Mul_comm (fl : Flags) (a b : Nat) : u64Mul fl a b = u64Mul fl b a := by
  simp only [u64Mul, Word.mul, Nat.mul_comm]

theorem u256Div_ok (fl : Flags) (a b : Nat) (hb : b ≠ 0) : u256Div fl a b = .ok (a / b) := by
  simp [u256Div, Word.wdiv, aluError, hb]

theorem u256Add_ok (fl : Flags) (a b : Nat) (h : a + b < 2 ^ 256) : u256Add fl a b = .ok (a + b) := by
  simp only [Nat.reducePow] at h
  simp [u256Add, Word.wadd, wideOverflow, Nat.not_le.mpr h, Nat.mod_eq_of_lt h]

theorem wshr_one (s : Nat) : Word.wshr 256 s 1 = s / 2 := by
  simp [Word.wshr]

theorem u256Sub_one (fl : Flags) (r : Nat) (h : 1 ≤ r) : u256Sub fl r 1 = .ok (r - 1) := by
  have : ¬ r < 1 := by omega
  simp [u256Sub, Word.wsub, this]

theorem and_one (x : Nat) : Word.and x 1 = x % 2 := by
  simp [Word.and, Nat.and_one_is_mod]

theorem srl_one (x : Nat) : Word.srl x 1 = x / 2 := by
  simp [Word.srl]

/-! ## U128

A `U128` value is `upper * W64 + lower`; `add`, `sub` and `mul` are followed on numbers written in this limb form. -/

namespace U128

theorem ofNat_limbs {u l : Nat} (hu : u < W64) (hl : l < W64) : ofNat (u * W64 + l) = ⟨u, l⟩ := by
  rw [ofNat, Nat.add_comm, Nat.add_mul_div_right _ _ (by decide), Nat.add_mul_mod_self_right, Nat.div_eq_of_lt hl,
    Nat.zero_add, Nat.mod_eq_of_lt hu, Nat.mod_eq_of_lt hl]

theorem limbs_lt_iff {u l : Nat} (hl : l < W64) : u * W64 + l < 2 ^ 128 ↔ u < W64 := by
  simp only [W64] at *; omega

theorem carry_eq {x y : Nat} (hx : x < W64) (hy : y < W64) :
    (x + y) / W64 % W64 = if x + y < W64 then 0 else 1 := by
  by_cases h : x + y < W64
  · rw [if_pos h, Nat.div_eq_of_lt h]; rfl
  · rw [if_neg h, Nat.div_eq_of_lt_le (k := 1) (by omega) (by omega)]; rfl

theorem limbs_sub {au al bu bl : Nat} (hu : bu ≤ au) (hl : bl ≤ al) :
    au * W64 + al - (bu * W64 + bl) = (au - bu) * W64 + (al - bl) := by
  rw [Nat.sub_mul, ← Nat.add_sub_assoc hl, ← Nat.sub_add_comm (Nat.mul_le_mul_right _ hu), Nat.sub_sub]

/-- the same with a borrow from the upper limb, the lower limb in the form in which `sub` computes it -/
theorem limbs_sub_borrow {au al bu bl : Nat} (hu : bu < au) (hl : al < bl) (hbl : bl < W64) :
    au * W64 + al - (bu * W64 + bl) = (au - bu - 1) * W64 + (MAX64 - (bl - al - 1)) := by
  obtain ⟨d, rfl⟩ := Nat.exists_eq_add_of_le hu
  obtain ⟨e, rfl⟩ := Nat.exists_eq_add_of_le hl
  have : MAX64 + 1 = W64 := rfl
  apply Nat.sub_eq_of_eq_add
  rw [Nat.sub_sub, Nat.add_sub_cancel_left, Nat.sub_sub, Nat.add_sub_cancel_left, Nat.add_mul, Nat.succ_mul]
  omega

theorem toNat_lt (a : U128) (h : a.wf) : a.toNat < 2 ^ 128 := (limbs_lt_iff h.2).mpr h.1

theorem ofNat_toNat (a : U128) (h : a.wf) : ofNat a.toNat = a := ofNat_limbs h.1 h.2

theorem toNat_ofNat (n : Nat) (h : n < 2 ^ 128) : (ofNat n).toNat = n := by
  rw [ofNat, toNat, Nat.mod_eq_of_lt (Nat.div_lt_of_lt_mul (show n < W64 * W64 from h))]
  exact Nat.div_add_mod' n W64

theorem ofNat_wf (n : Nat) : (ofNat n).wf := ⟨Nat.mod_lt _ (by decide), Nat.mod_lt _ (by decide)⟩

theorem assert_true : StdNum.assert true = .ok () := rfl
theorem assert_false : StdNum.assert false = .revert FAILED_ASSERT := rfl

theorem lt_iff (a b : U128) (ha : a.wf) (hb : b.wf) : lt a b = true ↔ a.toNat < b.toNat := by
  obtain ⟨-, ha⟩ := ha
  obtain ⟨-, hb⟩ := hb
  simp only [lt, toNat, W64, Bool.or_eq_true, Bool.and_eq_true, decide_eq_true_eq, beq_iff_eq] at *
  omega

theorem add_nowrap {fl : Flags} (hw : fl.wrapping = false) (a b : U128) (ha : a.wf) (hb : b.wf) :
    add fl a b = if a.toNat + b.toNat < 2 ^ 128 then .ok (ofNat (a.toNat + b.toNat))
      else .revert FAILED_ASSERT := by
  obtain ⟨au, al⟩ := a
  obtain ⟨bu, bl⟩ := b
  obtain ⟨ha1, ha2⟩ := ha
  obtain ⟨hb1, hb2⟩ := hb
  simp only at ha1 ha2 hb1 hb2
  have hsum : toNat ⟨au, al⟩ + toNat ⟨bu, bl⟩ = (au + bu) * W64 + (al + bl) := by
    simp only [toNat, Nat.add_mul, Nat.add_add_add_comm]
  simp only [hsum, add, overflowingAdd_eq, panicOnOverflowEnabled_nowrap hw, Res.ok_bind, if_true,
    carry_eq ha1 hb1, carry_eq ha2 hb2]
  by_cases h2 : al + bl < W64
  · -- no carry out of the lower limbs: the sum fits iff the upper limbs add without overflow
    simp only [h2, limbs_lt_iff h2, ↓reduceIte, Nat.lt_irrefl, Res.pure_eq, Res.ok_bind]
    by_cases h1 : au + bu < W64
    · simp only [h1, ↓reduceIte, beq_self_eq_true, assert_true, Res.ok_bind, ofNat_limbs h1 h2,
        Nat.mod_eq_of_lt h1, Nat.mod_eq_of_lt h2]
    · simp only [h1, ↓reduceIte]; rfl
  · -- carry: the sum is `(au + bu + 1) * W64 + (al + bl - W64)`
    have hl : al + bl - W64 < W64 := Nat.sub_lt_left_of_lt_add (Nat.le_of_not_lt h2) (Nat.add_lt_add ha2 hb2)
    have hm : (al + bl) % W64 = al + bl - W64 := by
      rw [Nat.mod_eq_sub_mod (Nat.le_of_not_lt h2), Nat.mod_eq_of_lt hl]
    have hc : (au + bu) * W64 + (al + bl) = (au + bu + 1) * W64 + (al + bl - W64) := by
      rw [Nat.add_mul _ 1, Nat.one_mul, Nat.add_assoc, Nat.add_sub_cancel' (Nat.le_of_not_lt h2)]
    simp only [hc, h2, limbs_lt_iff hl, ↓reduceIte, Nat.zero_lt_one]
    by_cases h1 : au + bu < W64
    · simp only [h1, ↓reduceIte, beq_self_eq_true, assert_true, Res.ok_bind, Nat.mod_eq_of_lt h1,
        carry_eq h1 (by decide : 1 < W64)]
      by_cases h3 : au + bu + 1 < W64
      · simp only [h3, ↓reduceIte, beq_self_eq_true, assert_true, Res.ok_bind, Res.pure_eq,
          ofNat_limbs h3 hl, Nat.mod_eq_of_lt h3, hm]
      · simp only [h3, ↓reduceIte]; rfl
    · have h3 : ¬ au + bu + 1 < W64 := fun h => h1 (Nat.lt_of_succ_lt h)
      simp only [h1, h3, ↓reduceIte]; rfl

theorem sub_nowrap {fl : Flags} (hw : fl.wrapping = false) (a b : U128) (ha : a.wf) (hb : b.wf) :
    sub fl a b = if b.toNat ≤ a.toNat then .ok (ofNat (a.toNat - b.toNat)) else .revert FAILED_ASSERT := by
  have hp := panicOnOverflowEnabled_nowrap hw
  by_cases hl : lt a b = true
  · have h : ¬ b.toNat ≤ a.toNat := Nat.not_le.mpr ((lt_iff a b ha hb).mp hl)
    simp only [sub, hp, if_true, hl, Bool.not_true, assert_false, h, if_false]
    rfl
  · have h : b.toNat ≤ a.toNat := Nat.not_lt.mp (mt (lt_iff a b ha hb).mpr hl)
    obtain ⟨au, al⟩ := a
    obtain ⟨bu, bl⟩ := b
    simp only [Bool.not_eq_true] at hl
    simp only [toNat] at h ⊢
    simp only [sub, hp, if_true, hl, Bool.not_false, assert_true, Res.ok_bind, u64Sub_nowrap hw, h, Res.pure_eq]
    simp only [lt, Bool.or_eq_false_iff, decide_eq_false_iff_not, Bool.and_eq_false_imp, beq_iff_eq, Nat.not_lt] at hl
    obtain ⟨hu, hlo⟩ := hl
    by_cases h3 : al < bl
    · -- borrow: none of the five subtractions underflows
      have hu' : bu < au := Nat.lt_of_le_of_ne hu fun e => Nat.not_le.mpr h3 (hlo e.symm)
      have k2 : al ≤ bl := Nat.le_of_lt h3
      have k3 : 1 ≤ bl - al := Nat.sub_pos_of_lt h3
      have k4 : bl - al - 1 ≤ MAX64 :=
        Nat.le_trans (Nat.sub_le _ _) (Nat.le_trans (Nat.sub_le _ _) (Nat.le_of_lt_succ hb.2))
      have k5 : 1 ≤ au - bu := Nat.sub_pos_of_lt hu'
      simp only [h3, hu, k2, k3, k4, k5, ↓reduceIte, Res.ok_bind, limbs_sub_borrow hu' h3 hb.2]
      rw [ofNat_limbs (Nat.sub_lt_of_lt (Nat.sub_lt_of_lt ha.1)) (Nat.sub_lt_of_lt (by decide))]
    · have hl' : bl ≤ al := Nat.le_of_not_lt h3
      simp only [h3, hu, hl', ↓reduceIte, Res.ok_bind, limbs_sub hu hl']
      rw [ofNat_limbs (Nat.sub_lt_of_lt ha.1) (Nat.sub_lt_of_lt ha.2)]

/-- the shared tail of `multiply` when one upper limb is zero: `x` (one limb) times `yu*W + yl` -/
theorem mul_tail {fl : Flags} (hw : fl.wrapping = false) (x yu yl : Nat) (hx : x < W64) (hyl : yl < W64) :
    (do let t ← u64Mul fl x yu
        let u ← u64Add fl ((x * yl) / W64 % W64) t
        pure (⟨u, (x * yl) % W64⟩ : U128)) =
      if x * (yu * W64 + yl) < 2 ^ 128 then .ok (ofNat (x * (yu * W64 + yl))) else .panic .arithmeticOverflow := by
  -- the product is `u * W64 + l` with `l` a word, so it fits 128 bits iff `u` is a word
  have hl : x * yl % W64 < W64 := Nat.mod_lt _ (by decide)
  have hh : x * yl / W64 < W64 := Nat.div_lt_of_lt_mul (Nat.mul_lt_mul'' hx hyl)
  have hsplit : x * (yu * W64 + yl) = (x * yl / W64 + x * yu) * W64 + x * yl % W64 := by
    rw [Nat.add_mul, Nat.add_right_comm, Nat.div_add_mod', Nat.mul_add, Nat.mul_assoc, Nat.add_comm]
  simp only [hsplit, limbs_lt_iff hl, u64Mul_nowrap hw, u64Add_nowrap hw, Nat.mod_eq_of_lt hh]
  by_cases h : x * yl / W64 + x * yu < W64
  · have h1 : x * yu < W64 := Nat.lt_of_le_of_lt (Nat.le_add_left _ _) h
    simp only [h1, h, ↓reduceIte, Res.ok_bind, Res.pure_eq, ofNat_limbs h hl]
  · by_cases h1 : x * yu < W64
    · simp only [h1, h, ↓reduceIte, Res.ok_bind, Res.panic_bind]
    · simp only [h1, h, ↓reduceIte, Res.panic_bind]

/-- the two failures of `U128::multiply`: its own assertion when both upper limbs are set, otherwise the VM panic
of the limb operation that overflows -/
theorem mul_dflt (a b : U128) (ha : a.wf) (hb : b.wf) :
    mul {} a b = if a.toNat * b.toNat < 2 ^ 128 then .ok (ofNat (a.toNat * b.toNat))
      else if a.upper ≠ 0 ∧ b.upper ≠ 0 then .revert FAILED_ASSERT else .panic .arithmeticOverflow := by
  obtain ⟨au, al⟩ := a
  obtain ⟨bu, bl⟩ := b
  simp only [toNat]
  by_cases h1 : au = 0
  · subst h1
    simp only [mul, panicOnUnsafeMathEnabled_dflt, beq_self_eq_true, Bool.true_or, assert_true, Res.ok_bind,
      overflowingMul_eq, ↓reduceIte, Nat.zero_mul, Nat.zero_add, ne_eq, not_true_eq_false, false_and]
    exact mul_tail rfl al bu bl ha.2 hb.2
  · have hau : (au == 0) = false := beq_false_of_ne h1
    by_cases h2 : bu = 0
    · subst h2
      simp only [mul, panicOnUnsafeMathEnabled_dflt, beq_self_eq_true, Bool.or_true, assert_true, Res.ok_bind,
        overflowingMul_eq, ↓reduceIte, hau, Bool.false_eq_true, Nat.mul_comm al bl, u64Mul_comm {} au bl,
        Nat.zero_mul, Nat.zero_add, Nat.mul_comm _ bl, ne_eq, not_true_eq_false, and_false]
      exact mul_tail rfl bl au al hb.2 ha.2
    · have hbu : (bu == 0) = false := beq_false_of_ne h2
      have hbig : ¬ (au * W64 + al) * (bu * W64 + bl) < 2 ^ 128 := by
        have h3 : W64 ≤ au * W64 + al := Nat.le_add_right_of_le (Nat.le_mul_of_pos_left _ (Nat.pos_of_ne_zero h1))
        have h4 : W64 ≤ bu * W64 + bl := Nat.le_add_right_of_le (Nat.le_mul_of_pos_left _ (Nat.pos_of_ne_zero h2))
        exact Nat.not_lt.mpr (show W64 * W64 ≤ _ from Nat.mul_le_mul h3 h4)
      simp only [mul, panicOnUnsafeMathEnabled_dflt, hau, hbu, Bool.or_self, assert_false, hbig, ↓reduceIte, ne_eq,
        h1, h2, not_false_eq_true, and_self]
      rfl

end U128

/-! ## u256 square root (Newton)

The lemmas speak of any `r` with `r * r ≤ n < (r + 1) * (r + 1)`. -/

theorem mul_le_sq_of_add_le {a b r : Nat} (h : a + b ≤ 2 * r) : a * b ≤ r * r := by
  have aux : ∀ {a b : Nat}, a ≤ r → a + b ≤ 2 * r → a * b ≤ r * r := by
    intro a b ha h
    obtain ⟨j, rfl⟩ := Nat.exists_eq_add_of_le ha
    calc a * b ≤ a * (a + (j + j)) := Nat.mul_le_mul_left _ (by omega)
      _ ≤ (a + j) * (a + j) := by
        simp only [Nat.mul_add, Nat.add_mul, Nat.mul_comm j a]; omega
  rcases Nat.le_total a r with ha | ha
  · exact aux ha h
  · rw [Nat.mul_comm]; exact aux (by omega) (by omega)

theorem newton_ge {n r : Nat} (hr : r * r ≤ n) (x : Nat) (hx : 0 < x) : r ≤ (x + n / x) / 2 := by
  -- otherwise `x + (n / x + 1) ≤ 2 * r`, so `x * (n / x + 1) ≤ r * r ≤ n`
  apply Nat.le_of_not_lt; intro hlt
  have h1 : x * (n / x + 1) ≤ r * r := mul_le_sq_of_add_le (by omega)
  have h2 : n < x * (n / x + 1) := Nat.lt_mul_div_succ n hx
  omega

theorem div_le_sqrt {n r : Nat} (hr : n < (r + 1) * (r + 1)) (x : Nat) (h : r < x) : n / x ≤ r :=
  Nat.le_of_lt_succ ((Nat.div_lt_iff_lt_mul (by omega)).mpr
    (Nat.lt_of_lt_of_le hr (Nat.mul_le_mul_left _ h)))

/-- a crude bound at or above the root, enough to keep `x + n / x` within 256 bits -/
theorem div_le_sqrt_add_two {n r : Nat} (hr : n < (r + 1) * (r + 1)) (x : Nat) (h : r ≤ x) (h0 : 0 < r) :
    n / x ≤ r + 2 := by
  have : n / r < r + 3 := by
    rw [Nat.div_lt_iff_lt_mul h0]
    simp only [Nat.add_mul, Nat.mul_add] at hr ⊢; omega
  exact Nat.le_trans (Nat.div_le_div_left h h0) (by omega)

section sqrt
variable (fl : Flags) {n r : Nat} (hr : r * r ≤ n) (hr' : n < (r + 1) * (r + 1))
include hr

theorem u256SqrtLoop_root (h0 : 0 < r) (f : Nat) :
    u256SqrtLoop fl n (f + 1) r ((r + n / r) / 2) = .ok r := by
  rw [u256SqrtLoop, if_neg (Nat.not_lt.mpr (newton_ge hr r h0))]; rfl

include hr'

/-- the distance to the root at least halves in every step (so fuel `f + 1` is enough when `x0 - r < 2 ^ f`), and
`x + n / x` stays below `2^255 + 2^128 + 2` -/
theorem u256SqrtLoop_ok (hn : n < 2 ^ 256) (hn2 : 2 ≤ n) :
    ∀ (f x0 : Nat), r ≤ x0 → x0 ≤ n / 2 → x0 - r < 2 ^ f →
      u256SqrtLoop fl n (f + 1) x0 ((x0 + n / x0) / 2) = .ok r := by
  have h0 : 0 < r := Nat.pos_of_ne_zero (by rintro rfl; omega)
  have hr128 : r < 2 ^ 128 := by
    apply Nat.lt_of_not_le; intro hc
    have := Nat.mul_le_mul hc hc
    omega
  intro f
  induction f with
  | zero =>
    intro x0 h1 _ h3
    obtain rfl : x0 = r := by omega
    exact u256SqrtLoop_root fl hr h0 0
  | succ f ih =>
    intro x0 h1 h2 h3
    by_cases hx : r < x0
    · have hge := newton_ge hr x0 (Nat.lt_of_lt_of_le h0 h1)
      have hdiv := div_le_sqrt hr' x0 hx
      have hdiv' := div_le_sqrt_add_two hr' _ hge h0
      have hlt : (x0 + n / x0) / 2 < x0 := by omega
      have hhalf : 2 * ((x0 + n / x0) / 2 - r) ≤ x0 - r := by omega
      generalize (x0 + n / x0) / 2 = x1 at *
      have hsum : x1 + n / x1 < 2 ^ 256 := by omega
      rw [u256SqrtLoop]
      simp only [hlt, ↓reduceIte, u256Div_ok fl n x1 (Nat.ne_of_gt (Nat.lt_of_lt_of_le h0 hge)), Res.ok_bind,
        u256Add_ok fl _ _ hsum, wshr_one]
      exact ih x1 hge (by omega) (by rw [Nat.pow_succ] at h3; omega)
    · obtain rfl : x0 = r := by omega
      exact u256SqrtLoop_root fl hr h0 _

theorem u256Sqrt_eq (hn : n < 2 ^ 256) : u256Sqrt fl n = .ok r := by
  unfold u256Sqrt
  simp only [wshr_one]
  by_cases h0 : n / 2 = 0
  · have h1 : r ≤ n := Nat.le_trans (Nat.le_mul_self r) hr
    obtain rfl : r = n := by
      rcases Nat.eq_zero_or_pos r with rfl | h <;> omega
    simp [h0]
  · have hn2 : 2 ≤ n := by omega
    have hq : n / (n / 2) < 4 := by rw [Nat.div_lt_iff_lt_mul (Nat.pos_of_ne_zero h0)]; omega
    simp only [h0, ↓reduceIte, u256Div_ok fl n _ h0, Res.ok_bind,
      u256Add_ok fl _ _ (by omega : n / 2 + n / (n / 2) < 2 ^ 256)]
    -- `r ≤ n / 2` because `2 * r ≤ r * r` unless `r < 2`
    have hhalf : r ≤ n / 2 := by
      by_cases h : 2 ≤ r
      · have := Nat.mul_le_mul_right r h; omega
      · omega
    -- for a variable `f`, so that the literal `2 ^ 299` is never evaluated
    have hdist : ∀ f, 256 ≤ f → n / 2 - r < 2 ^ f := fun f hf =>
      Nat.lt_of_lt_of_le (Nat.lt_of_le_of_lt (Nat.le_trans (Nat.sub_le _ _) (Nat.div_le_self n 2)) hn)
        (Nat.pow_le_pow_right Nat.two_pos hf)
    exact u256SqrtLoop_ok fl hr hr' hn hn2 299 (n / 2) hhalf (Nat.le_refl _) (hdist 299 (by decide))
end sqrt

/-! ## pow -/

theorem expChecked_eq (b c : Nat) : expChecked b c = if b ^ c < W64 then some (b ^ c) else none := by
  rw [expChecked]
  by_cases hb : b < 2
  · rw [if_pos hb]
    by_cases hc : c = 0
    · rw [hc]; rfl
    · rw [if_neg hc]
      rcases Nat.le_one_iff_eq_zero_or_eq_one.mp (Nat.le_of_lt_succ hb) with rfl | rfl
      · rw [Nat.zero_pow (Nat.pos_of_ne_zero hc)]; rfl
      · rw [Nat.one_pow]; rfl
  · rw [if_neg hb]
    by_cases hc : 64 ≤ c
    · have : W64 ≤ b ^ c :=
        Nat.le_trans (Nat.pow_le_pow_right (n := 2) (by decide) hc) (Nat.pow_le_pow_left (Nat.not_lt.mp hb) c)
      rw [if_pos hc, if_neg (Nat.not_lt.mpr this)]
    · rw [if_neg hc]

/-- the outcome of an overflowing operation whose result is documented as 0 under `F_WRAPPING` -/
def overflowOutcome (fl : Flags) : Res Nat := if fl.wrapping then .ok 0 else .panic .arithmeticOverflow

theorem u64Pow_eq (fl : Flags) (x e : Nat) :
    u64Pow fl x e = if x ^ e < W64 then .ok (x ^ e) else overflowOutcome fl := by
  unfold u64Pow Word.exp boolOverflow overflowOutcome
  rw [expChecked_eq]
  by_cases h : x ^ e < W64
  · simp [h]
  · cases fl.wrapping <;> simp [h]

theorem u256CheckedMul_eq (fl : Flags) (a b : Nat) :
    u256CheckedMul fl a b = if a * b < 2 ^ 256 then .ok (some (a * b))
      else if fl.wrapping then .ok none else .panic .arithmeticOverflow := by
  unfold u256CheckedMul Word.wmul wideOverflow
  by_cases h : a * b < 2 ^ 256
  · have h' : ¬ (2 ^ 256 ≤ a * b) := by omega
    simp only [h', decide_false, Bool.false_eq_true, false_and, ↓reduceIte, Nat.mod_eq_of_lt h, Res.ok_bind, h]
    simp
  · have h' : 2 ^ 256 ≤ a * b := by omega
    simp only [h', decide_true, true_and, h, ↓reduceIte]
    cases fl.wrapping <;> rfl

/-- every multiplication in `u256PowLoop` goes through this `match`: continue with the product if it fits
256 bits, otherwise the result of `pow` is the overflow outcome -/
theorem checkedMul_match (fl : Flags) (a b : Nat) (k : Nat → Res Nat) :
    u256PowLoop.match_1 (fun _ => Res Nat) (u256CheckedMul fl a b) k (fun _ => .ok 0)
      (fun c => .revert c) (fun p => .panic p) (fun _ => .fuel) =
    if a * b < 2 ^ 256 then k (a * b) else overflowOutcome fl := by
  rw [u256CheckedMul_eq]
  by_cases h : a * b < 2 ^ 256
  · simp only [h, ↓reduceIte]
  · simp only [h, ↓reduceIte, overflowOutcome]; cases fl.wrapping <;> rfl

theorem pow_halve (base exp : Nat) : base ^ exp = base ^ (exp % 2) * (base * base) ^ (exp / 2) := by
  rw [← Nat.pow_two, ← Nat.pow_mul, ← Nat.pow_add, Nat.mod_add_div]

theorem u256PowLoop_zero (fl : Flags) : ∀ (f exp acc : Nat), 1 ≤ exp → exp < 2 ^ f →
    u256PowLoop fl f exp 0 acc = .ok 0 := by
  intro f
  induction f with
  | zero => intro exp acc h1 h2; omega
  | succ f ih =>
    intro exp acc h1 h2
    have hz : (0 : Nat) < 2 ^ 256 := Nat.pow_pos (by decide)
    rw [u256PowLoop]
    simp only [checkedMul_match, and_one, srl_one, Res.pure_eq, Nat.mul_zero, hz, if_true]
    by_cases hgt : 1 < exp
    · have h := fun acc => ih (exp / 2) acc (by omega) (by rw [Nat.pow_succ] at h2; omega)
      simp only [hgt, h, ite_self]
    · simp only [hgt, if_false]

/-- base and accumulator are positive, so every intermediate product is a factor of the final one, hence a lower
bound: an intermediate product overflows only if the true power needs more than 256 bits -/
theorem u256PowLoop_pos (fl : Flags) :
    ∀ (f exp base acc : Nat), 1 ≤ exp → exp < 2 ^ f → 1 ≤ base → 1 ≤ acc →
    u256PowLoop fl f exp base acc =
      if acc * base ^ exp < 2 ^ 256 then .ok (acc * base ^ exp) else overflowOutcome fl := by
  intro f
  induction f with
  | zero => intro exp base acc h1 h2; omega
  | succ f ih =>
    intro exp base acc h1 h2 hb ha
    rw [u256PowLoop]; simp only [checkedMul_match, and_one, srl_one, Res.pure_eq]
    by_cases hgt : 1 < exp
    · have hk1 : 1 ≤ exp / 2 := by omega
      have hk2 : exp / 2 < 2 ^ f := by rw [Nat.pow_succ] at h2; omega
      have hbb : 1 ≤ base * base := Nat.mul_pos hb hb
      -- `base * base ≤ c * (base * base) ^ (exp / 2)` for the new accumulator `c`
      have hle : ∀ c, 1 ≤ c → base * base ≤ c * (base * base) ^ (exp / 2) := fun c hc =>
        Nat.le_trans (Nat.le_self_pow (by omega) _) (Nat.le_mul_of_pos_left _ hc)
      rw [if_pos hgt, pow_halve base exp, ← Nat.mul_assoc]
      by_cases hodd : exp % 2 = 1
      · have hab : 1 ≤ acc * base := Nat.mul_pos ha hb
        have hacc := Nat.le_mul_of_pos_right (acc * base) (Nat.pow_pos (n := exp / 2) hbb)
        have hbig := hle _ hab
        rw [if_pos hodd, hodd, Nat.pow_one]
        by_cases ho1 : acc * base < 2 ^ 256
        · by_cases ho2 : base * base < 2 ^ 256
          · rw [if_pos ho1, if_pos ho2, ih _ _ _ hk1 hk2 hbb hab]
          · rw [if_pos ho1, if_neg ho2, if_neg (fun h => ho2 (Nat.lt_of_le_of_lt hbig h))]
        · rw [if_neg ho1, if_neg (fun h => ho1 (Nat.lt_of_le_of_lt hacc h))]
      · have hbig := hle _ ha
        rw [if_neg hodd, show exp % 2 = 0 by omega, Nat.pow_zero, Nat.mul_one]
        by_cases ho2 : base * base < 2 ^ 256
        · rw [if_pos ho2, ih _ _ _ hk1 hk2 hbb ha]
        · rw [if_neg ho2, if_neg (fun h => ho2 (Nat.lt_of_le_of_lt hbig h))]
    · obtain rfl : exp = 1 := by omega
      rw [if_neg hgt, Nat.pow_one]

theorem u256Pow_eq (fl : Flags) (x e : Nat) (he : e < 2 ^ 32) :
    u256Pow fl x e = if x ^ e < 2 ^ 256 then .ok (x ^ e) else overflowOutcome fl := by
  unfold u256Pow
  have h1 : (1 : Nat) < 2 ^ 256 := Nat.one_lt_two_pow (by decide)
  by_cases h0 : e = 0
  · subst h0
    simp only [↓reduceIte, Nat.pow_zero, h1]; rfl
  · rw [if_neg h0]
    rcases Nat.eq_zero_or_pos x with rfl | hx
    · rw [u256PowLoop_zero fl 33 e 1 (by omega) (by omega), Nat.zero_pow (by omega), if_pos (by omega)]
    · rw [u256PowLoop_pos fl 33 e x 1 (by omega) (by omega) hx (Nat.le_refl 1), Nat.one_mul]


/-! ## log, log2 -/

theorem ilogAux_spec (b : Nat) (hb : 2 ≤ b) : ∀ (f n : Nat), 1 ≤ n → n < 2 ^ f →
    b ^ (ilogAux b f n) ≤ n ∧ n < b ^ (ilogAux b f n + 1) := by
  intro f
  induction f with
  | zero => intro n h1 h2; simp at h2; omega
  | succ f ih =>
    intro n h1 h2
    rw [ilogAux]
    by_cases c : n < b
    · simp [c]; omega
    · have hbpos : 0 < b := by omega
      have hq1 : 1 ≤ n / b := (Nat.le_div_iff_mul_le hbpos).mpr (by omega)
      have hq2 : n / b < 2 ^ f := by
        rw [Nat.div_lt_iff_lt_mul hbpos]
        calc n < 2 ^ f * 2 := by rw [Nat.pow_succ] at h2; omega
          _ ≤ 2 ^ f * b := Nat.mul_le_mul_left _ hb
      obtain ⟨i1, i2⟩ := ih (n / b) hq1 hq2
      rw [if_neg c, Nat.pow_succ, Nat.pow_succ]
      exact ⟨Nat.le_trans (Nat.mul_le_mul_right _ i1) (Nat.div_mul_le_self n b),
        (Nat.div_lt_iff_lt_mul hbpos).mp i2⟩

theorem log_unique (b : Nat) (hb : 2 ≤ b) (n k m : Nat) (h1 : b ^ k ≤ n) (h2 : n < b ^ (k + 1))
    (h3 : b ^ m ≤ n) (h4 : n < b ^ (m + 1)) : k = m := by
  rcases Nat.lt_trichotomy k m with h | h | h
  · have : b ^ (k + 1) ≤ b ^ m := Nat.pow_le_pow_right (by omega) h
    omega
  · exact h
  · have : b ^ (m + 1) ≤ b ^ k := Nat.pow_le_pow_right (by omega) h
    omega

theorem ilog2_eq_log2 (a : Nat) (h1 : 1 ≤ a) (h2 : a < 2 ^ 64) : ilog 2 a = Nat.log2 a := by
  obtain ⟨i1, i2⟩ := ilogAux_spec 2 (Nat.le_refl _) 64 a h1 h2
  exact log_unique 2 (Nat.le_refl _) a _ _ i1 i2 (Nat.log2_self_le (by omega)) Nat.lt_log2_self

theorem u64Log_safe (fl : Flags) (hf : fl.unsafeMath = false) (x b : Nat) :
    U128.u64Log fl x b = if x = 0 ∨ b ≤ 1 then .panic .arithmeticError else .ok (ilog b x) := by
  unfold U128.u64Log Word.mlog aluError
  by_cases c : x = 0 ∨ b ≤ 1
  · have : (x == 0 || decide (b ≤ 1)) = true := by
      rcases c with c | c <;> simp [c]
    simp [this, c, hf]
  · have : (x == 0 || decide (b ≤ 1)) = false := by
      simp only [not_or] at c
      simp [c.1, c.2]
    simp [this, c]

theorem log2_shift (n a s : Nat) (ha : a = n / 2 ^ s) (h0 : a ≠ 0) : Nat.log2 n = Nat.log2 a + s := by
  have hn : n ≠ 0 := by
    rintro rfl; simp at ha; exact h0 ha
  have i1 : 2 ^ Nat.log2 a ≤ a := Nat.log2_self_le h0
  have i2 : a < 2 ^ (Nat.log2 a + 1) := Nat.lt_log2_self
  have hp : 0 < 2 ^ s := Nat.pow_pos (by decide)
  have j1 : 2 ^ (Nat.log2 a + s) ≤ n := by
    rw [Nat.pow_add]
    calc 2 ^ Nat.log2 a * 2 ^ s ≤ a * 2 ^ s := Nat.mul_le_mul_right _ i1
      _ ≤ n := by rw [ha]; exact Nat.div_mul_le_self n _
  have j2 : n < 2 ^ (Nat.log2 a + s + 1) := by
    rw [Nat.add_right_comm, Nat.pow_add, ← Nat.div_lt_iff_lt_mul hp, ← ha]
    exact i2
  exact log_unique 2 (Nat.le_refl _) n _ _ (Nat.log2_self_le hn) Nat.lt_log2_self j1 j2

/-- one limb of `u256::log2`: the highest non-zero 64-bit limb `a = n / 2^s` determines the result -/
theorem log2_limb (fl : Flags) (hf : fl.unsafeMath = false) {n a s : Nat} (ha : a = n / 2 ^ s) (h0 : a ≠ 0)
    (hlt : a < W64) : U128.u64Log fl a 2 = .ok (Nat.log2 a) ∧ Nat.log2 n = Nat.log2 a + s ∧ Nat.log2 a < 64 :=
  ⟨by rw [u64Log_safe fl hf, if_neg (by omega), ilog2_eq_log2 a (by omega) hlt], log2_shift n a s ha h0,
    (Nat.log2_lt h0).mpr hlt⟩

theorem limb_lt {n s : Nat} (h : n < 2 ^ (s + 64)) : n / 2 ^ s < W64 :=
  Nat.div_lt_of_lt_mul (by rwa [Nat.pow_add] at h)

theorem lt_of_limb_eq_zero {n s : Nat} (h : ¬ n / 2 ^ s ≠ 0) : n < 2 ^ s :=
  Nat.lt_of_div_eq_zero (Nat.two_pow_pos s) (Classical.not_not.mp h)

theorem u256Log2_safe (fl : Flags) (hf : fl.unsafeMath = false) (n : Nat) (hn : n < 2 ^ 256) :
    u256Log2 fl n = if n = 0 then .revert FAILED_ASSERT else .ok (Nat.log2 n) := by
  unfold u256Log2
  by_cases h0 : n = 0
  · subst h0; simp [panicOnUnsafeMathEnabled, hf]
  · simp only [h0, and_false, ↓reduceIte]
    -- the limbs above the first non-zero one vanish, so `% W64` does nothing on it
    by_cases ca : n / 2 ^ 192 ≠ 0
    · obtain ⟨e1, e2, e3⟩ := log2_limb fl hf rfl ca (limb_lt (s := 192) hn)
      rw [if_pos ca, e1, Res.ok_bind, u256Add_ok _ _ _ (by omega), e2]
    · have hn := lt_of_limb_eq_zero ca
      rw [if_neg ca, Nat.mod_eq_of_lt (limb_lt (s := 128) hn)]
      by_cases cb : n / 2 ^ 128 ≠ 0
      · obtain ⟨e1, e2, e3⟩ := log2_limb fl hf rfl cb (limb_lt (s := 128) hn)
        rw [if_pos cb, e1, Res.ok_bind, u256Add_ok _ _ _ (by omega), e2]
      · have hn := lt_of_limb_eq_zero cb
        rw [if_neg cb, Nat.mod_eq_of_lt (limb_lt (s := 64) hn)]
        by_cases cc : n / 2 ^ 64 ≠ 0
        · obtain ⟨e1, e2, e3⟩ := log2_limb fl hf rfl cc (limb_lt (s := 64) hn)
          rw [if_pos cc, e1, Res.ok_bind, u256Add_ok _ _ _ (by omega), e2]
        · have hn : n < W64 := lt_of_limb_eq_zero cc
          rw [if_neg cc, Nat.mod_eq_of_lt hn, if_pos h0]
          exact (log2_limb fl hf (s := 0) (Nat.div_one n).symm h0 hn).1

/-- what `base.pow(r)` returns inside `log` (panic on overflow disabled) -/
def powOf (b r : Nat) : Nat := if b ^ r < 2 ^ 256 then b ^ r else 0

theorem u256Pow_wrapping (fl : Flags) (hw : fl.wrapping = true) (b r : Nat) (hr : r < 2 ^ 32) :
    u256Pow fl b r = .ok (powOf b r) := by
  rw [u256Pow_eq fl b r hr]
  unfold powOf overflowOutcome
  by_cases h : b ^ r < 2 ^ 256
  · simp only [h, ↓reduceIte]
  · simp only [h, ↓reduceIte, hw]

/-- the correction loop of `u256::log` walks down from any over-estimate to the floor logarithm -/
theorem u256LogLoop_ok (fl : Flags) (hw : fl.wrapping = true) (x b L : Nat) (hb : 2 ≤ b) (hx : x < 2 ^ 256)
    (h1 : b ^ L ≤ x) (h2 : x < b ^ (L + 1)) :
    ∀ (f r : Nat), L ≤ r → r < f → f ≤ 2 ^ 32 → u256LogLoop fl x b f r (powOf b r) = .ok L := by
  intro f
  induction f with
  | zero => intro r _ h; omega
  | succ f ih =>
    intro r hLr hrf hf
    rw [u256LogLoop]
    by_cases c : r = L
    · subst c
      have hp : powOf b r = b ^ r := by
        unfold powOf; rw [if_pos (by omega)]
      have hpos : 0 < b ^ r := Nat.pow_pos (by omega)
      have : ¬ (x < powOf b r ∨ powOf b r = 0) := by rw [hp]; omega
      rw [if_neg this]; rfl
    · have hgt : L + 1 ≤ r := by omega
      have hbig : x < b ^ r := Nat.lt_of_lt_of_le h2 (Nat.pow_le_pow_right (by omega) hgt)
      have : x < powOf b r ∨ powOf b r = 0 := by
        unfold powOf
        by_cases hh : b ^ r < 2 ^ 256
        · left; rw [if_pos hh]; exact hbig
        · right; rw [if_neg hh]
      rw [if_pos this]
      have hr1 : 1 ≤ r := by omega
      have hmod : (r - 1) % W64 = r - 1 := Nat.mod_eq_of_lt (by simp only [W64]; omega)
      simp only [u256Sub_one fl r hr1, Res.ok_bind, hmod, u256Pow_wrapping fl hw b (r - 1) (by omega)]
      exact ih (r - 1) (by omega) (by omega) (by omega)

theorem u256Log_safe (fl0 : Flags) (hf : fl0.unsafeMath = false) (x b : Nat) (hx : x < 2 ^ 256) (hb : b < 2 ^ 256) :
    (b < 2 ∨ x = 0 → u256Log fl0 x b = .revert FAILED_ASSERT) ∧
    (2 ≤ b → 1 ≤ x → ∃ L, u256Log fl0 x b = .ok L ∧ b ^ L ≤ x ∧ x < b ^ (L + 1)) := by
  -- the body runs under these flags
  have hfl : (disablePanicOnOverflow fl0).unsafeMath = false := hf
  have hwl : (disablePanicOnOverflow fl0).wrapping = true := rfl
  have hpu : panicOnUnsafeMathEnabled (disablePanicOnOverflow fl0) = true := by
    simp only [panicOnUnsafeMathEnabled, hfl, Bool.not_false]
  constructor
  · intro h
    unfold u256Log
    simp only [hpu, true_and]
    by_cases c : b < 2
    · simp [c]
    · simp [c, h.resolve_left c]
  · intro h2b h1x
    unfold u256Log
    have c1 : ¬ b < 2 := by omega
    have c2 : ¬ x = 0 := by omega
    simp only [hpu, true_and, c1, c2, ↓reduceIte, not_true_eq_false, false_and, or_self]
    by_cases c3 : x < b
    · refine ⟨0, by simp [c3], by simpa using h1x, by simpa using c3⟩
    · simp only [c3, ↓reduceIte]
      have hb0 : b ≠ 0 := by omega
      obtain ⟨i1, i2⟩ := ilogAux_spec b h2b 256 x h1x hx
      generalize ilogAux b 256 x = L at i1 i2
      have hlb1 : 1 ≤ Nat.log2 b := by
        have := (Nat.le_log2 hb0 (k := 1)).mpr h2b
        omega
      have hls : Nat.log2 x < 256 := (Nat.log2_lt c2).mpr hx
      -- the estimate is an over-estimate
      have hest : L ≤ Nat.log2 x / Nat.log2 b := by
        rw [Nat.le_div_iff_mul_le (by omega)]
        have e1 : 2 ^ (Nat.log2 b * L) ≤ b ^ L := by
          rw [Nat.pow_mul]; exact Nat.pow_le_pow_left (Nat.log2_self_le hb0) L
        have e2 : x < 2 ^ (Nat.log2 x + 1) := Nat.lt_log2_self
        have e4 := (Nat.pow_lt_pow_iff_right (by decide : 1 < 2)).mp (Nat.lt_of_le_of_lt (Nat.le_trans e1 i1) e2)
        rw [Nat.mul_comm]; omega
      have hr0 : Nat.log2 x / Nat.log2 b < 256 := Nat.lt_of_le_of_lt (Nat.div_le_self _ _) hls
      have hmod : Nat.log2 x / Nat.log2 b % W64 = Nat.log2 x / Nat.log2 b :=
        Nat.mod_eq_of_lt (by simp only [W64]; omega)
      refine ⟨L, ?_, i1, i2⟩
      simp only [u256Log2_safe _ hfl x hx, c2, ↓reduceIte, Res.ok_bind, u256Log2_safe _ hfl b hb, hb0,
        u256Div_ok _ _ _ (by omega : Nat.log2 b ≠ 0), hmod,
        u256Pow_wrapping _ hwl b _ (by omega : Nat.log2 x / Nat.log2 b < 2 ^ 32)]
      exact u256LogLoop_ok _ hwl x b L h2b hx i1 i2 300 _ hest (by omega) (by decide)

end SwayVerif.StdNum
