import SwayVerif.Lemmas.UsefulnessMain
/-! `check_match_expression_usefulness` asks `is_useful` about each arm against the arms before it, so its
flags and final report are read off `U_correct` on one-column matrices (`checkArms_spec`). The condition the
matcher builds is `matches` as long as no or-pattern has an irrefutable alternative (`cond_spec`). -/
namespace SwayVerif.Usefulness

def armRows (arms : List Pat) : Matrix := arms.map fun a => [a]

theorem armRows_typed {arms : List Pat} {t : Ty} (h : ∀ a ∈ arms, a.hasTy t = true) :
    rowsHaveTy (armRows arms) [t] := by
  intro r hr
  simp only [armRows, List.mem_map] at hr
  obtain ⟨a, ha, rfl⟩ := hr
  simp [patsHaveTy, h a ha]

theorem useful_single {t : Ty} {arms : List Pat} {p : Pat} :
    Useful [t] (armRows arms) [p] ↔
      ∃ v : Val, v.hasTy t = true ∧ p.matches v = true ∧ ∀ a ∈ arms, a.matches v = false := by
  rw [useful_cons]
  constructor
  · rintro ⟨v, vs, hv, hvs, hm, -, hun⟩
    cases hasTyL_nil hvs
    refine ⟨v, hv, hm, fun a ha => ?_⟩
    have := hun [a] (List.mem_map_of_mem ha)
    rwa [matchesL, matchesL, Bool.and_true] at this
  · rintro ⟨v, hv, hm, hun⟩
    refine ⟨v, [], hv, rfl, hm, rfl, fun r hr => ?_⟩
    obtain ⟨a, ha, rfl⟩ := List.mem_map.mp hr
    rw [matchesL, hun a ha]; rfl

theorem mu_single (t : Ty) (p : Pat) : mu [t] [p] = t.size + p.size := by
  simp [mu, sizeTys, sizeL]

theorem checkArms_spec (t : Ty) (ht : t.inhab = true) (fuel : Nat) :
    ∀ (arms pre : List Pat), (∀ a ∈ pre, a.hasTy t = true) → (∀ a ∈ arms, a.hasTy t = true) →
      t.size + sizeL arms < fuel →
      ∃ bs fin, checkArms fuel arms (armRows pre) = some (bs, fin) ∧ bs.length = arms.length ∧
        (∀ k (hk : k < arms.length), bs[k]? = some true ↔
          ∃ v : Val, v.hasTy t = true ∧ arms[k].matches v = true ∧
            ∀ a ∈ pre ++ arms.take k, a.matches v = false) ∧
        (fin.has = true ↔ ∃ v : Val, v.hasTy t = true ∧ ∀ a ∈ pre ++ arms, a.matches v = false)
  | [] => fun pre hpre _ hf => by
    have hmu : mu [t] [Pat.wild] < fuel := by rw [mu_single]; exact hf
    obtain ⟨r, hr, hiff, _⟩ := U_correct fuel [t] (armRows pre) [.wild] (by rw [inhabL, ht]; rfl)
      (armRows_typed hpre) rfl hmu
    refine ⟨[], r, by simp [checkArms, hr], rfl, fun k hk => (nomatch hk), ?_⟩
    rw [hiff, useful_single, List.append_nil]
    exact ⟨fun ⟨v, h1, _, h2⟩ => ⟨v, h1, h2⟩, fun ⟨v, h1, h2⟩ => ⟨v, h1, rfl, h2⟩⟩
  | a :: arms => fun pre hpre harms hf => by
    have ha := harms a List.mem_cons_self
    have hf : t.size + (a.size + sizeL arms) < fuel := hf
    have hmu : mu [t] [a] < fuel := by
      rw [mu_single]; exact Nat.lt_of_le_of_lt (Nat.add_le_add_left (Nat.le_add_right _ _) _) hf
    obtain ⟨r, hr, hiff, _⟩ := U_correct fuel [t] (armRows pre) [a] (by rw [inhabL, ht]; rfl)
      (armRows_typed hpre) (by rw [patsHaveTy, ha]; rfl) hmu
    have hpre' : ∀ x ∈ pre ++ [a], x.hasTy t = true := fun x hx =>
      (List.mem_append.mp hx).elim (hpre x) fun h => List.mem_singleton.mp h ▸ ha
    obtain ⟨bs, fin, hrec, hlen, hflags, hfin⟩ := checkArms_spec t ht fuel arms (pre ++ [a]) hpre'
      (fun x hx => harms x (List.mem_cons_of_mem _ hx))
      (Nat.lt_of_le_of_lt (Nat.add_le_add_left (Nat.le_add_left _ _) _) hf)
    have hrows : armRows pre ++ [[a]] = armRows (pre ++ [a]) := by simp [armRows]
    -- `a` moves from the arms to the rows already seen
    have hmove : ∀ l : List Pat, (pre ++ [a]) ++ l = pre ++ a :: l := fun l => by
      rw [List.append_assoc, List.singleton_append]
    refine ⟨r.has :: bs, fin, by simp [checkArms, hr, hrows, hrec], by rw [List.length_cons, hlen]; rfl,
      fun k hk => ?_, by rw [hfin, hmove]⟩
    cases k with
    | zero =>
      rw [List.getElem?_cons_zero, Option.some.injEq, hiff, useful_single, List.take_zero, List.append_nil]
      rfl
    | succ k =>
      rw [List.getElem?_cons_succ, hflags k (Nat.lt_of_succ_lt_succ hk), hmove, List.take_succ_cons]
      rfl

/-! ## The matcher's condition agrees with `matches` when no or-pattern has an irrefutable alternative -/

theorem andOpt_getD (x y : Option Bool) : (andOpt x y).getD true = (x.getD true && y.getD true) := by
  cases x <;> cases y <;> simp [andOpt]

theorem andOpt_none {x y : Option Bool} (h : andOpt x y = none) : x = none ∧ y = none := by
  cases x <;> cases y <;> simp [andOpt] at h ⊢

mutual
theorem cond_spec : ∀ (p : Pat) (v : Val), p.hasOrCatchAll = false →
    ((p.cond v).getD true = p.matches v) ∧ (p.cond v = none → p.irrefutable = true)
  | .wild => fun _ _ => ⟨rfl, fun _ => rfl⟩
  | .bool _ | .u8 _ _ | .num _ _ => fun v _ => by cases v <;> exact ⟨rfl, nofun⟩
  | .enum n t p => fun v h => by
    cases v with
    | enum t' v' =>
      have ih := cond_spec p v' h
      have hm : (Pat.enum n t p).matches (.enum t' v') = (t == t' && p.matches v') := rfl
      cases htt : t == t' with
      | true =>
        have hc : (Pat.enum n t p).cond (.enum t' v') = andOpt (some true) (p.cond v') := if_pos htt
        rw [hc, hm, htt, andOpt_getD, ih.1]
        exact ⟨rfl, fun hn => nomatch (andOpt_none hn).1⟩
      | false =>
        have hc : (Pat.enum n t p).cond (.enum t' v') = some false := if_neg (ne_true_of_eq_false htt)
        rw [hc, hm, htt]
        exact ⟨rfl, nofun⟩
    | bool _ | u8 _ | tuple _ => exact ⟨rfl, nofun⟩
  | .tuple ps => fun v h => by
    cases v with
    | tuple vs => exact condAnd_spec ps vs h
    | bool _ | u8 _ | enum _ _ => exact ⟨rfl, nofun⟩
  | .strct idx ps => fun v h => by
    cases v with
    | tuple vs => exact condAndF_spec idx ps vs h
    | bool _ | u8 _ | enum _ _ => exact ⟨rfl, nofun⟩
  | .or ps => fun v h => by
    simp only [Pat.hasOrCatchAll, Bool.or_eq_false_iff] at h
    have hne : ps ≠ [] := by intro h'; simp [h'] at h
    have := condOr_spec ps v h.1.2 h.2 hne
    simp [Pat.cond, Pat.matches, this]
theorem condAnd_spec : ∀ (ps : List Pat) (vs : List Val), hasOrCatchAllL ps = false →
    ((condAnd ps vs).getD true = matchesL ps vs) ∧ (condAnd ps vs = none → allIrrefutable ps = true)
  | [], [] => fun _ => ⟨rfl, fun _ => rfl⟩
  | [], _ :: _ | _ :: _, [] => fun _ => ⟨rfl, nofun⟩
  | p :: ps, v :: vs => fun h => by
    rw [hasOrCatchAllL, Bool.or_eq_false_iff] at h
    have i1 := cond_spec p v h.1
    have i2 := condAnd_spec ps vs h.2
    refine ⟨?_, fun hn => ?_⟩
    · rw [condAnd, andOpt_getD, i1.1, i2.1, matchesL]
    · have := andOpt_none hn
      rw [allIrrefutable, i1.2 this.1, i2.2 this.2]; rfl
theorem condAndF_spec : ∀ (idx : List Nat) (ps : List Pat) (vs : List Val), hasOrCatchAllL ps = false →
    ((condAndF idx ps vs).getD true = matchesF idx ps vs) ∧ (condAndF idx ps vs = none → allIrrefutable ps = true)
  | [], [] => fun _ _ => ⟨rfl, fun _ => rfl⟩
  | [], _ :: _ | _ :: _, [] => fun _ _ => ⟨rfl, nofun⟩
  | i :: is, p :: ps => fun vs h => by
    rw [hasOrCatchAllL, Bool.or_eq_false_iff] at h
    have i2 := condAndF_spec is ps vs h.2
    refine ⟨?_, fun hn => ?_⟩
    · rw [condAndF, andOpt_getD, i2.1, matchesF]
      cases vs[i]? with
      | none => rfl
      | some v => rw [(cond_spec p v h.1).1]
    · rw [condAndF] at hn
      have := andOpt_none hn
      cases hv : vs[i]? with
      | none => rw [hv] at this; exact nomatch this.1
      | some v =>
        rw [hv] at this
        rw [allIrrefutable, (cond_spec p v h.1).2 this.1, i2.2 this.2]; rfl
theorem condOr_spec : ∀ (ps : List Pat) (v : Val), anyIrrefutable ps = false → hasOrCatchAllL ps = false →
    ps ≠ [] → condOr ps v = some (matchesAny ps v)
  | [] => fun _ _ _ hne => absurd rfl hne
  | p :: ps => fun v hirr h _ => by
    simp only [anyIrrefutable, Bool.or_eq_false_iff] at hirr
    simp only [hasOrCatchAllL, Bool.or_eq_false_iff] at h
    have i1 := cond_spec p v h.1
    cases hc : p.cond v with
    | none => have := i1.2 hc; simp [hirr.1] at this
    | some b =>
      have hb : b = p.matches v := by have := i1.1; simpa [hc] using this
      cases ps with
      | nil => simp [condOr, hc, orOpt, matchesAny, hb]
      | cons q qs =>
        have := condOr_spec (q :: qs) v hirr.2 h.2 (by simp)
        show orOpt (p.cond v) (condOr (q :: qs) v) = some (p.matches v || matchesAny (q :: qs) v)
        rw [hc, this, hb]
        rfl
end

theorem rtMatches_eq {p : Pat} (h : p.hasOrCatchAll = false) (v : Val) : p.rtMatches v = p.matches v :=
  (cond_spec p v h).1

end SwayVerif.Usefulness
