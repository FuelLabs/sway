import SwayVerif.Model.Lock
/-! `Res` and byte offsets, as C20 and C21 both need them, and then C21: every reader of `Model/Lock.lean` is a
chain of `bind`s none of whose links can be `panic` — a slice `&s[n..]` is taken only behind the `starts_with`
that makes `n` a boundary, and `to_graph` indexes only with positions it has looked up. -/
namespace SwayVerif.Lock

/-! ## `Res` -/

@[simp] theorem Res.bind_ok {α β : Type} (a : α) (f : α → Res β) : (Res.ok a).bind f = f a := rfl
@[simp] theorem Res.bind_err {α β : Type} (f : α → Res β) : (Res.err : Res α).bind f = .err := rfl
@[simp] theorem Res.bind_panic {α β : Type} (f : α → Res β) : (Res.panic : Res α).bind f = .panic := rfl
@[simp] theorem Res.ofOption_some {α : Type} (a : α) : Res.ofOption (some a) = .ok a := rfl
@[simp] theorem Res.ofOption_none {α : Type} : Res.ofOption (none : Option α) = .err := rfl
@[simp] theorem Res.orPanic_some {α : Type} (a : α) : Res.orPanic (some a) = .ok a := rfl
@[simp] theorem Res.orPanic_none {α : Type} : Res.orPanic (none : Option α) = .panic := rfl
@[simp] theorem Res.orElse_ok {α : Type} (a : α) (b : Res α) : (Res.ok a).orElse b = .ok a := rfl
@[simp] theorem Res.orElse_err {α : Type} (b : Res α) : (Res.err : Res α).orElse b = b := rfl

theorem Res.ofOption_ne_panic {α : Type} (o : Option α) : Res.ofOption o ≠ .panic := by
  cases o <;> simp

theorem Res.bind_ne_panic {α β : Type} {x : Res α} {f : α → Res β}
    (hx : x ≠ .panic) (hf : ∀ a, x = .ok a → f a ≠ .panic) : x.bind f ≠ .panic := by
  cases x with
  | ok a => exact hf a rfl
  | err => simp
  | panic => exact absurd rfl hx

theorem Res.orElse_ne_panic {α : Type} {x y : Res α} (hx : x ≠ .panic) (hy : y ≠ .panic) :
    x.orElse y ≠ .panic := by
  cases x with
  | ok a => simp
  | err => simpa using hy
  | panic => exact absurd rfl hx

theorem Res.bind_eq_ok {α β : Type} {x : Res α} {f : α → Res β} {b : β} :
    x.bind f = .ok b ↔ ∃ a, x = .ok a ∧ f a = .ok b := by
  cases x <;> simp

theorem Res.ite_ne_panic {α : Type} {c : Prop} [Decidable c] {x y : Res α}
    (hx : c → x ≠ .panic) (hy : ¬ c → y ≠ .panic) : (if c then x else y) ≠ .panic := by
  split
  · exact hx ‹_›
  · exact hy ‹_›

@[simp] theorem Res.ofOption_eq_ok {α : Type} {o : Option α} {a : α} : Res.ofOption o = .ok a ↔ o = some a := by
  cases o <;> simp [Res.ofOption]

theorem Res.ne_panic_iff {α : Type} {x : Res α} : x ≠ .panic ↔ (∃ a, x = .ok a) ∨ x = .err := by
  cases x <;> simp

theorem c21PropHolds_cls {α : Type} {x : Res α} : c21PropHolds x.cls = true ↔ x ≠ .panic := by
  cases x <;> simp [c21PropHolds, Res.cls]

/-! ## Bytes -/

theorem u8len_pos (c : Char) : 0 < u8len c :=
  iteInduction (motive := (0 < ·)) (fun _ => by decide) fun _ =>
  iteInduction (motive := (0 < ·)) (fun _ => by decide) fun _ =>
  iteInduction (motive := (0 < ·)) (fun _ => by decide) fun _ => by decide

@[simp] theorem blen_nil : blen [] = 0 := rfl
@[simp] theorem blen_cons (c : Char) (cs : Str) : blen (c :: cs) = u8len c + blen cs := rfl

theorem blen_append (a b : Str) : blen (a ++ b) = blen a + blen b := by
  induction a with
  | nil => simp
  | cons c cs ih => simp [ih, Nat.add_assoc]

theorem splitAtByte_zero (s : Str) : splitAtByte s 0 = some ([], s) := by
  cases s <;> rfl

theorem splitAtByte_cons_pos (c : Char) (cs : Str) (n : Nat) (h : 0 < n) :
    splitAtByte (c :: cs) n =
      if n < u8len c then none
      else match splitAtByte cs (n - u8len c) with
        | some (a, b) => some (c :: a, b)
        | none => none := by
  cases n with
  | zero => omega
  | succ n => rfl

theorem splitAtByte_append (p q : Str) : splitAtByte (p ++ q) (blen p) = some (p, q) := by
  induction p with
  | nil => simp [splitAtByte_zero]
  | cons c cs ih =>
    rw [List.cons_append, blen_cons, splitAtByte_cons_pos _ _ _ (Nat.add_pos_left (u8len_pos c) _),
      if_neg (Nat.not_lt.2 (Nat.le_add_right _ _)), Nat.add_sub_cancel_left, ih]

theorem getFrom_append (p q : Str) : getFrom (p ++ q) (blen p) = some q := by
  simp [getFrom, splitAtByte_append]

theorem getFrom_of_startsWith {s p : Str} (h : startsWith s p = true) :
    getFrom s (blen p) = some (s.drop p.length) := by
  have hp : p <+: s := List.isPrefixOf_iff_prefix.mp h
  have := List.prefix_iff_eq_append.mp hp
  conv => lhs; rw [← this]
  exact getFrom_append _ _

theorem startsWith_append (p q : Str) : startsWith (p ++ q) p = true :=
  List.isPrefixOf_iff_prefix.mpr (List.prefix_append p q)

/-! ## No panic: the parsers -/

theorem stripPrefixPlus_ne_panic (lit s : Str) : stripPrefixPlus lit s ≠ .panic := by
  unfold stripPrefixPlus
  exact Res.ite_ne_panic (fun h => by rw [getFrom_of_startsWith h]; simp) (fun _ => by simp)

theorem parsePath_ne_panic (s : Str) : parsePath s ≠ .panic := by
  unfold parsePath
  refine Res.bind_ne_panic (stripPrefixPlus_ne_panic _ _) fun a _ => ?_
  refine Res.bind_ne_panic (Res.ofOption_ne_panic _) fun b _ => ?_
  exact Res.ofOption_ne_panic _

theorem parseGit_ne_panic (ext : Ext) (s : Str) : parseGit ext s ≠ .panic := by
  unfold parseGit
  refine Res.bind_ne_panic (stripPrefixPlus_ne_panic _ _) fun a _ => ?_
  refine Res.bind_ne_panic (Res.ofOption_ne_panic _) fun b _ => ?_
  refine Res.bind_ne_panic (Res.ofOption_ne_panic _) fun c _ => ?_
  refine Res.bind_ne_panic (Res.ofOption_ne_panic _) fun d _ => ?_
  refine Res.bind_ne_panic (Res.ofOption_ne_panic _) fun e _ => ?_
  refine Res.ite_ne_panic (fun _ => by simp) fun _ => ?_
  refine Res.ite_ne_panic (fun h => by rw [getFrom_of_startsWith h]; simp) fun _ => ?_
  refine Res.ite_ne_panic (fun h => by rw [getFrom_of_startsWith h]; simp) fun _ => ?_
  refine Res.ite_ne_panic (fun _ => by simp) fun _ => ?_
  exact Res.ite_ne_panic (fun _ => by simp) (fun _ => by simp)

theorem parseIpfs_ne_panic (ext : Ext) (s : Str) : parseIpfs ext s ≠ .panic := by
  unfold parseIpfs
  refine Res.bind_ne_panic (stripPrefixPlus_ne_panic _ _) fun a _ => ?_
  refine Res.bind_ne_panic (Res.ofOption_ne_panic _) fun b _ => ?_
  simp

theorem parseReg_ne_panic (ext : Ext) (s : Str) : parseReg ext s ≠ .panic := by
  unfold parseReg
  refine Res.bind_ne_panic (stripPrefixPlus_ne_panic _ _) fun a _ => ?_
  refine Res.bind_ne_panic (Res.ofOption_ne_panic _) fun b _ => ?_
  refine Res.bind_ne_panic (Res.ofOption_ne_panic _) fun c _ => ?_
  refine Res.bind_ne_panic (Res.ofOption_ne_panic _) fun d _ => ?_
  refine Res.bind_ne_panic (Res.ofOption_ne_panic _) fun e _ => ?_
  refine Res.bind_ne_panic (Res.ofOption_ne_panic _) fun f _ => ?_
  refine Res.ite_ne_panic (fun _ => by simp) fun _ => ?_
  refine Res.bind_ne_panic (Res.ofOption_ne_panic _) fun g _ => ?_
  simp

theorem parsePinned_ne_panic (ext : Ext) (s : Str) : parsePinned ext s ≠ .panic := by
  unfold parsePinned
  refine Res.ite_ne_panic (fun _ => by simp) fun _ => ?_
  refine Res.orElse_ne_panic ?_ (Res.orElse_ne_panic (parseGit_ne_panic _ _)
    (Res.orElse_ne_panic (parseIpfs_ne_panic _ _) (parseReg_ne_panic _ _)))
  exact Res.bind_ne_panic (parsePath_ne_panic _) fun a _ => by simp

theorem parseDepHead_ne_panic (s : Str) : parseDepHead s ≠ .panic := by
  unfold parseDepHead
  refine Res.ite_ne_panic (fun h => ?_) (fun _ => by simp)
  refine Res.bind_ne_panic ?_ fun b _ => ?_
  · have := getFrom_of_startsWith h
    rw [show blen ['('] = 1 from by decide] at this
    rw [this]; simp
  · refine Res.bind_ne_panic (Res.ofOption_ne_panic _) fun c _ => ?_
    simp

theorem parseDepTail_ne_panic (d : Option Str) (s : Str) : parseDepTail d s ≠ .panic := by
  unfold parseDepTail
  simp only
  refine Res.bind_ne_panic (Res.ofOption_ne_panic _) fun b _ => ?_
  split
  · simp
  · refine Res.bind_ne_panic (Res.ofOption_ne_panic _) fun c _ => ?_
    refine Res.bind_ne_panic (Res.ofOption_ne_panic _) fun d _ => ?_
    simp

theorem parsePkgDepLine_ne_panic (l : Str) : parsePkgDepLine l ≠ .panic := by
  unfold parsePkgDepLine
  exact Res.bind_ne_panic (parseDepHead_ne_panic _) fun a _ => parseDepTail_ne_panic _ _

/-! ## No panic: `to_graph` -/

theorem lookupKey_spec {keys : List Str} {k : Str} {i : Nat} (h : lookupKey keys k = some i) :
    keys[i]? = some k := by
  induction keys generalizing i with
  | nil => cases h
  | cons x xs ih =>
    rw [lookupKey] at h
    cases hx : lookupKey xs k with
    | some j =>
      rw [hx] at h
      cases h
      exact ih hx
    | none =>
      simp only [hx] at h
      split at h
      · cases h; exact congrArg some ‹x = k›
      · cases h

theorem lookupKey_lt {keys : List Str} {k : Str} {i : Nat} (h : lookupKey keys k = some i) :
    i < keys.length :=
  (List.getElem?_eq_some_iff.mp (lookupKey_spec h)).1

theorem lookupKey_of_mem {keys : List Str} {k : Str} (h : k ∈ keys) : ∃ i, lookupKey keys k = some i := by
  induction keys with
  | nil => simp at h
  | cons x xs ih =>
    simp only [lookupKey]
    cases hx : lookupKey xs k with
    | some j => exact ⟨_, rfl⟩
    | none =>
      rcases List.mem_cons.mp h with h | h
      · exact ⟨0, by simp [h]⟩
      · obtain ⟨i, hi⟩ := ih h
        rw [hx] at hi; simp at hi

theorem parseNodes_length {ext : Ext} {pkgs : List PkgLock} {nodes : List Pkg}
    (h : parseNodes ext pkgs = .ok nodes) : nodes.length = pkgs.length := by
  induction pkgs generalizing nodes with
  | nil => simp [parseNodes] at h; simp [← h]
  | cons p ps ih =>
    simp only [parseNodes] at h
    obtain ⟨src, _, h⟩ := Res.bind_eq_ok.mp h
    obtain ⟨rest, hr, h⟩ := Res.bind_eq_ok.mp h
    simp only [Res.ok.injEq] at h
    rw [← h]; simp [ih hr]

theorem parseNodes_ne_panic (ext : Ext) (pkgs : List PkgLock) : parseNodes ext pkgs ≠ .panic := by
  induction pkgs with
  | nil => simp [parseNodes]
  | cons p ps ih =>
    simp only [parseNodes]
    refine Res.bind_ne_panic (parsePinned_ne_panic _ _) fun a _ => ?_
    refine Res.bind_ne_panic ih fun b _ => ?_
    simp

theorem addDep_ne_panic {keys : List Str} {nodes : List Pkg} (hlen : nodes.length = keys.length)
    (node : Nat) (c : Bool) (es : List Edge) (line : Str) : addDep keys nodes node c es line ≠ .panic := by
  unfold addDep
  refine Res.bind_ne_panic (parsePkgDepLine_ne_panic _) fun a _ => ?_
  refine Res.bind_ne_panic (Res.ofOption_ne_panic _) fun b hb => ?_
  refine Res.bind_ne_panic ?_ fun d _ => by simp
  have hlt : b < nodes.length := hlen ▸ lookupKey_lt (Res.ofOption_eq_ok.mp hb)
  simp [List.getElem?_eq_getElem hlt]

theorem addDeps_ne_panic {keys : List Str} {nodes : List Pkg} (hlen : nodes.length = keys.length)
    (node : Nat) (c : Bool) (ls : List Str) (es : List Edge) : addDeps keys nodes node c ls es ≠ .panic := by
  induction ls generalizing es with
  | nil => simp [addDeps]
  | cons l ls ih =>
    simp only [addDeps]
    exact Res.bind_ne_panic (addDep_ne_panic hlen _ _ _ _) fun a _ => ih a

theorem addPkgs_ne_panic {names keys : List Str} {nodes : List Pkg} (hlen : nodes.length = keys.length)
    (ps : List PkgLock) (hps : ∀ p ∈ ps, pkgKey names p ∈ keys) (es : List Edge) :
    addPkgs names keys nodes ps es ≠ .panic := by
  induction ps generalizing es with
  | nil => simp [addPkgs]
  | cons p ps ih =>
    simp only [addPkgs]
    refine Res.bind_ne_panic ?_ fun a _ => ?_
    · obtain ⟨j, hj⟩ := lookupKey_of_mem (hps p (List.mem_cons_self))
      simp [hj]
    · refine Res.bind_ne_panic (addDeps_ne_panic hlen _ _ _ _) fun b _ => ?_
      refine Res.bind_ne_panic (addDeps_ne_panic hlen _ _ _ _) fun c _ => ?_
      exact ih (fun q hq => hps q (List.mem_cons_of_mem _ hq)) c

theorem toGraph_ne_panic (ext : Ext) (pkgs : List PkgLock) : toGraph ext pkgs ≠ .panic := by
  unfold toGraph
  simp only
  refine Res.bind_ne_panic (parseNodes_ne_panic _ _) fun nodes hn => ?_
  refine Res.bind_ne_panic ?_ fun es _ => by simp
  refine addPkgs_ne_panic ?_ pkgs ?_ []
  · simp [parseNodes_length hn]
  · intro p hp
    exact List.mem_map.mpr ⟨p, hp, rfl⟩

end SwayVerif.Lock
