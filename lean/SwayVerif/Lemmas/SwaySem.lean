import SwayVerif.Model.SwaySem
/-!
Two facts about the `SwaySem` interpreter.

Fuel monotonicity: results are ordered with `oof` at the bottom (`Res.le`); every `step*` function is monotone in the
approximation it unfolds, so `evals` is monotone in the fuel and more fuel never changes a result that is not `oof`.

Progress for the closed scalar fragment: `tyE` types literals, operators, comparisons and casts, and a well-typed
expression evaluates to a value of its type, an arithmetic revert, or `oof` (`scalar_good`).
-/
namespace SwayVerif.SwaySem

def Res.le {α : Type} (r r' : Res α) : Prop := r = .oof ∨ r = r'

theorem Res.le_refl {α : Type} (r : Res α) : Res.le r r := Or.inr rfl
theorem Res.oof_le {α : Type} (r : Res α) : Res.le .oof r := Or.inl rfl

/-- The order is flat. So whatever is to be shown of `r` and `r'` with `Res.le r r'` (typically `Res.le (k r) (k' r')`
for two contexts that are strict in `oof`) has only the cases `r = oof` and `r' = r`. -/
@[elab_as_elim]
theorem Res.le.cases {α : Type} {motive : Res α → Res α → Prop} (oof : ∀ r', motive .oof r')
    (refl : ∀ r, motive r r) {r r' : Res α} (h : Res.le r r') : motive r r' := by
  rcases h with rfl | rfl
  · exact oof r'
  · exact refl r

theorem bind_le {α β : Type} {m m' : Res α} {f f' : α → St → Res β}
    (hm : Res.le m m') (hf : ∀ a s, Res.le (f a s) (f' a s)) : Res.le (m.bind f) (m'.bind f') := by
  refine Res.le.cases (fun _ => Or.inl rfl) (fun r => ?_) hm
  cases r with
  | ok a s => exact hf a s
  | _ => exact Res.le_refl _

theorem bind_le_left {α β : Type} {m m' : Res α} {f : α → St → Res β} (hm : Res.le m m') :
    Res.le (m.bind f) (m'.bind f) :=
  bind_le hm fun _ _ => Res.le_refl _

theorem asBool_le {v : Val} {s : St} {k k' : Bool → Res Val} (h : ∀ b, Res.le (k b) (k' b)) :
    Res.le (asBool v s k) (asBool v s k') := by
  cases v with
  | bool b => exact h b
  | _ => exact Res.le_refl _

theorem bothBranches_le {r1 r1' r2 r2' : Res Val} (s : St) (h1 : Res.le r1 r1') (h2 : Res.le r2 r2') :
    Res.le (bothBranches r1 r2 s) (bothBranches r1' r2' s) := by
  refine Res.le.cases (fun _ => Or.inl rfl) (fun r1 => ?_) h1
  refine Res.le.cases (fun _ => Or.inl ?_) (fun _ => Res.le_refl _) h2
  cases r1 <;> rfl

section
variable {fns : List Fn}
variable {rE rE' : Expr → St → Res Val} {rEs rEs' : List Expr → St → Res (List Val)}
variable {rB rB' : List Stmt → St → Res Val} {rS rS' : Stmt → St → Res Val}
variable {rArms rArms' : Val → List Arm → St → Res Val} {rPath rPath' : List PathElem → St → Res RPath}

theorem inScope_le (hB : ∀ x s, Res.le (rB x s) (rB' x s)) (b : List Stmt) (s : St) :
    Res.le (inScope rB b s) (inScope rB' b s) := by
  unfold inScope
  exact Res.le.cases (fun _ => Or.inl rfl) (fun _ => Res.le_refl _) (hB b s)

theorem stepE_le (hE : ∀ x s, Res.le (rE x s) (rE' x s)) (hEs : ∀ x s, Res.le (rEs x s) (rEs' x s))
    (hB : ∀ x s, Res.le (rB x s) (rB' x s)) (hA : ∀ v x s, Res.le (rArms v x s) (rArms' v x s))
    (x : Expr) (s : St) : Res.le (stepE fns rE rEs rB rArms x s) (stepE fns rE' rEs' rB' rArms' x s) := by
  cases x
  case lit => exact Res.le_refl _
  case bool => exact Res.le_refl _
  case var => exact Res.le_refl _
  case bin op a b =>
    exact bind_le (hE _ _) fun _ _ => bind_le_left (hE _ _)
  case cmp op a b =>
    exact bind_le (hE _ _) fun _ _ => bind_le_left (hE _ _)
  case land a b =>
    refine bind_le (hE _ _) fun _ _ => asBool_le fun x => ?_
    cases x
    · exact Res.le_refl _
    · exact bind_le_left (hE _ _)
  case lor a b =>
    refine bind_le (hE _ _) fun _ _ => asBool_le fun x => ?_
    cases x
    · exact bind_le_left (hE _ _)
    · exact Res.le_refl _
  case not a => exact bind_le_left (hE _ _)
  case cast w a => exact bind_le_left (hE _ _)
  case tup es => exact bind_le_left (hEs _ _)
  case proj a i => exact bind_le_left (hE _ _)
  case idx a i => exact bind_le (hE _ _) fun _ _ => bind_le_left (hE _ _)
  case enm t a => exact bind_le_left (hE _ _)
  case ite c t e =>
    refine bind_le (hE _ _) fun vc s => ?_
    cases vc with
    | poison w => exact bothBranches_le s (inScope_le hB _ _) (inScope_le hB _ _)
    | bool x => cases x <;> exact inScope_le hB _ _
    | _ => exact Res.le_refl _
  case block b => exact inScope_le hB _ _
  case call f args =>
    refine bind_le (hEs _ _) fun vs s => ?_
    cases findFn fns f with
    | none => exact Res.le_refl _
    | some fn =>
      dsimp only
      split
      · exact Res.le_refl _
      · exact Res.le.cases (fun _ => Or.inl rfl) (fun _ => Res.le_refl _)
          (hB fn.body { s with env := (fn.params.zip vs).reverse })
  case mtch a arms =>
    refine bind_le (hE _ _) fun va s => ?_
    split
    · exact Res.le_refl _
    · exact hA _ _ _

theorem stepEs_le (hE : ∀ x s, Res.le (rE x s) (rE' x s)) (hEs : ∀ x s, Res.le (rEs x s) (rEs' x s))
    (x : List Expr) (s : St) : Res.le (stepEs rE rEs x s) (stepEs rE' rEs' x s) := by
  cases x
  · exact Res.le_refl _
  · exact bind_le (hE _ _) fun _ _ => bind_le_left (hEs _ _)

theorem stepArms_le (hE : ∀ x s, Res.le (rE x s) (rE' x s)) (hA : ∀ v x s, Res.le (rArms v x s) (rArms' v x s))
    (v : Val) (x : List Arm) (s : St) : Res.le (stepArms rE rArms v x s) (stepArms rE' rArms' v x s) := by
  cases x with
  | nil => exact Res.le_refl _
  | cons a arms =>
    cases a with
    | mk p e =>
      dsimp only [stepArms]
      cases matchPat p v with
      | none => exact hA _ _ _
      | some bs =>
        dsimp only
        exact Res.le.cases (fun _ => Or.inl rfl) (fun _ => Res.le_refl _) (hE e { s with env := bs ++ s.env })

theorem stepPath_le (hE : ∀ x s, Res.le (rE x s) (rE' x s)) (hP : ∀ x s, Res.le (rPath x s) (rPath' x s))
    (x : List PathElem) (s : St) : Res.le (stepPath rE rPath x s) (stepPath rE' rPath' x s) := by
  cases x with
  | nil => exact Res.le_refl _
  | cons a p =>
    cases a with
    | fld i => exact bind_le_left (hP _ _)
    | idx e =>
      dsimp only [stepPath]
      refine bind_le (hE _ _) fun vi s => ?_
      split
      · exact bind_le_left (hP _ _)
      · exact Res.le_refl _
      · exact Res.le_refl _

theorem stepB_le (hB : ∀ x s, Res.le (rB x s) (rB' x s)) (hS : ∀ x s, Res.le (rS x s) (rS' x s))
    (x : List Stmt) (s : St) : Res.le (stepB rB rS x s) (stepB rB' rS' x s) := by
  match x with
  | [] => exact Res.le_refl _
  | [st] => exact hS _ _
  | st :: st2 :: rest => exact bind_le (hS _ _) fun _ _ => hB _ _

theorem stepS_le (hE : ∀ x s, Res.le (rE x s) (rE' x s)) (hB : ∀ x s, Res.le (rB x s) (rB' x s))
    (hS : ∀ x s, Res.le (rS x s) (rS' x s)) (hP : ∀ x s, Res.le (rPath x s) (rPath' x s))
    (x : Stmt) (s : St) : Res.le (stepS rE rB rS rPath x s) (stepS rE' rB' rS' rPath' x s) := by
  cases x
  case let_ x e => exact bind_le_left (hE _ _)
  case assign x path e =>
    exact bind_le (hE _ _) fun _ _ => bind_le_left (hP _ _)
  case while_ c b =>
    refine bind_le (hE _ _) fun _ s => asBool_le fun x => ?_
    cases x
    · exact Res.le_refl _
    · simp only [if_true]
      refine Res.le.cases (fun _ => Or.inl rfl) (fun r => ?_) (hB b s)
      cases r with
      | ok a s' => exact hS _ _
      | cont s' => exact hS _ _
      | _ => exact Res.le_refl _
  case brk => exact Res.le_refl _
  case cont => exact Res.le_refl _
  case ret e => exact bind_le_left (hE _ _)
  case expr e => exact bind_le_left (hE _ _)
  case tail e => exact hE _ _
  case log e => exact bind_le_left (hE _ _)
  case revert e => exact bind_le_left (hE _ _)
  case assert e => exact bind_le_left (hE _ _)
  case require c v => exact bind_le (hE _ _) fun _ _ => bind_le_left (hE _ _)

end

structure Evals.le (r r' : Evals) : Prop where
  e : ∀ x s, Res.le (r.e x s) (r'.e x s)
  es : ∀ x s, Res.le (r.es x s) (r'.es x s)
  b : ∀ x s, Res.le (r.b x s) (r'.b x s)
  s : ∀ x s, Res.le (r.s x s) (r'.s x s)
  arms : ∀ v x s, Res.le (r.arms v x s) (r'.arms v x s)
  path : ∀ x s, Res.le (r.path x s) (r'.path x s)

theorem Evals.bot_le (r : Evals) : Evals.le .bot r :=
  ⟨fun _ _ => Res.oof_le _, fun _ _ => Res.oof_le _, fun _ _ => Res.oof_le _, fun _ _ => Res.oof_le _,
   fun _ _ _ => Res.oof_le _, fun _ _ => Res.oof_le _⟩

theorem Evals.next_mono (fns : List Fn) {r r' : Evals} (h : Evals.le r r') : Evals.le (r.next fns) (r'.next fns) :=
  ⟨stepE_le h.e h.es h.b h.arms, stepEs_le h.e h.es, stepB_le h.b h.s, stepS_le h.e h.b h.s h.path,
   stepArms_le h.e h.arms, stepPath_le h.e h.path⟩

theorem evals_mono (fns : List Fn) : ∀ (n m : Nat), n ≤ m → Evals.le (evals fns n) (evals fns m)
  | 0, _, _ => Evals.bot_le _
  | n + 1, 0, h => absurd h (Nat.not_succ_le_zero n)
  | n + 1, m + 1, h => Evals.next_mono fns (evals_mono fns n m (Nat.le_of_succ_le_succ h))

/-! ## Typing of the closed scalar sub-fragment and progress -/

inductive STy | int (w : W) | bool
  deriving DecidableEq

def isShift : BinOp → Bool
  | .shl | .shr => true
  | _ => false

theorem isShift_iff (op : BinOp) : isShift op = true ↔ op = .shl ∨ op = .shr := by cases op <;> simp [isShift]

def isBitwise : BinOp → Bool
  | .band | .bor | .bxor => true
  | _ => false

def tyE : Expr → Option STy
  | .lit w n => if n ≤ w.max then some (.int w) else none
  | .bool _ => some .bool
  | .bin op a b =>
    match tyE a, tyE b with
    | some (.int w), some (.int w') =>
      if isShift op then (if w' = .u64 then some (.int w) else none)
      else if w = w' then some (.int w) else none
    | some .bool, some .bool => if isBitwise op then some .bool else none
    | _, _ => none
  | .cmp op a b =>
    match tyE a, tyE b with
    | some (.int w), some (.int w') => if w = w' then some .bool else none
    | some .bool, some .bool => if op = .eq ∨ op = .ne then some .bool else none
    | _, _ => none
  | .land a b | .lor a b =>
    match tyE a, tyE b with
    | some .bool, some .bool => some .bool
    | _, _ => none
  | .not a => tyE a
  | .cast w a =>
    match tyE a with
    | some (.int w') => if w'.bits ≤ w.bits then some (.int w) else none
    | _ => none
  | _ => none

theorem tyE_lit {w : W} {n : Nat} {t : STy} (h : tyE (.lit w n) = some t) : n ≤ w.max ∧ t = .int w := by
  rw [tyE] at h
  obtain ⟨hn, ht⟩ := Option.ite_none_right_eq_some.1 h
  exact ⟨hn, (Option.some.inj ht).symm⟩

theorem tyE_bin {op : BinOp} {a b : Expr} {t : STy} (h : tyE (.bin op a b) = some t) :
    (∃ w w', tyE a = some (.int w) ∧ tyE b = some (.int w') ∧ t = .int w ∧
      (if isShift op then w' = .u64 else w = w')) ∨
    (tyE a = some .bool ∧ tyE b = some .bool ∧ t = .bool ∧ isBitwise op = true) := by
  rw [tyE] at h
  split at h
  · next w w' ha hb =>
    refine Or.inl ⟨w, w', ha, hb, ?_⟩
    by_cases hs : isShift op = true
    · rw [if_pos hs] at h ⊢
      obtain ⟨hw, ht⟩ := Option.ite_none_right_eq_some.1 h
      exact ⟨(Option.some.inj ht).symm, hw⟩
    · rw [if_neg hs] at h ⊢
      obtain ⟨hw, ht⟩ := Option.ite_none_right_eq_some.1 h
      exact ⟨(Option.some.inj ht).symm, hw⟩
  · next ha hb =>
    obtain ⟨hop, ht⟩ := Option.ite_none_right_eq_some.1 h
    exact Or.inr ⟨ha, hb, (Option.some.inj ht).symm, hop⟩
  · cases h

theorem tyE_cmp {op : CmpOp} {a b : Expr} {t : STy} (h : tyE (.cmp op a b) = some t) :
    t = .bool ∧ ((∃ w, tyE a = some (.int w) ∧ tyE b = some (.int w)) ∨
      (tyE a = some .bool ∧ tyE b = some .bool ∧ (op = .eq ∨ op = .ne))) := by
  rw [tyE] at h
  split at h
  · next w w' ha hb =>
    obtain ⟨hw, ht⟩ := Option.ite_none_right_eq_some.1 h
    exact ⟨(Option.some.inj ht).symm, Or.inl ⟨w, ha, hw ▸ hb⟩⟩
  · next ha hb =>
    obtain ⟨hop, ht⟩ := Option.ite_none_right_eq_some.1 h
    exact ⟨(Option.some.inj ht).symm, Or.inr ⟨ha, hb, hop⟩⟩
  · cases h

theorem tyE_land {a b : Expr} {t : STy} (h : tyE (.land a b) = some t) :
    tyE a = some .bool ∧ tyE b = some .bool ∧ t = .bool := by
  rw [tyE] at h
  split at h
  · next ha hb => cases h; exact ⟨ha, hb, rfl⟩
  · cases h

theorem tyE_lor {a b : Expr} {t : STy} (h : tyE (.lor a b) = some t) :
    tyE a = some .bool ∧ tyE b = some .bool ∧ t = .bool :=
  tyE_land (a := a) (b := b) h

theorem tyE_cast {w : W} {a : Expr} {t : STy} (h : tyE (.cast w a) = some t) :
    ∃ w', tyE a = some (.int w') ∧ w'.bits ≤ w.bits ∧ t = .int w := by
  rw [tyE] at h
  split at h
  · next w' ha =>
    obtain ⟨hw, ht⟩ := Option.ite_none_right_eq_some.1 h
    exact ⟨w', ha, hw, (Option.some.inj ht).symm⟩
  · cases h

def hasTy : Val → STy → Prop
  | .int w _, .int w' => w = w'
  | .bool _, .bool => True
  | _, _ => False

/-- results a well-typed closed scalar expression may have in the prescriptive semantics (`skip = 0`):
a value of its type with the state unchanged, an arithmetic revert with the logs unchanged, or out of fuel -/
def GoodRes (s : St) (t : STy) : Res Val → Prop
  | .ok v s' => hasTy v t ∧ s' = s
  | .fail (.revert 0) l => l = s.logs
  | .oof => True
  | _ => False

theorem bind_good {s : St} {ta t : STy} {m : Res Val} {f : Val → St → Res Val}
    (hm : GoodRes s ta m) (hf : ∀ v, hasTy v ta → GoodRes s t (f v s)) : GoodRes s t (m.bind f) := by
  cases m with
  | ok v s' => obtain ⟨hv, hs⟩ := hm; subst hs; exact hf v hv
  | fail f' l =>
    cases f' with
    | revert c => cases c with
      | zero => exact hm
      | succ c => exact hm.elim
    | _ => exact hm.elim
  | oof => trivial
  | _ => exact hm.elim

theorem int_of_hasTy {v : Val} {w : W} (h : hasTy v (.int w)) : ∃ n, v = .int w n := by
  cases v with
  | int w' n => exact ⟨n, by simp only [hasTy] at h; rw [h]⟩
  | _ => exact h.elim

theorem bool_of_hasTy {v : Val} (h : hasTy v .bool) : ∃ b, v = .bool b := by
  cases v with
  | bool b => exact ⟨b, rfl⟩
  | _ => exact h.elim

theorem bind_good_int {s : St} {w : W} {t : STy} {m : Res Val} {f : Val → St → Res Val}
    (hm : GoodRes s (.int w) m) (hf : ∀ x, GoodRes s t (f (.int w x) s)) : GoodRes s t (m.bind f) :=
  bind_good hm fun v hv => by obtain ⟨x, rfl⟩ := int_of_hasTy hv; exact hf x

theorem bind_good_bool {s : St} {t : STy} {m : Res Val} {f : Val → St → Res Val}
    (hm : GoodRes s .bool m) (hf : ∀ x, GoodRes s t (f (.bool x) s)) : GoodRes s t (m.bind f) :=
  bind_good hm fun v hv => by obtain ⟨x, rfl⟩ := bool_of_hasTy hv; exact hf x

theorem binVals_int_good (op : BinOp) (w w' : W) (x y : Nat) (s : St) (hs : s.skip = 0)
    (hty : if isShift op then w' = .u64 else w = w') :
    GoodRes s (.int w) (binVals op (.int w x) (.int w' y) s) := by
  have h1 : ¬ ((op = .shl ∨ op = .shr) ∧ w' ≠ .u64) := fun ⟨ho, hw⟩ =>
    hw (by rwa [if_pos ((isShift_iff op).2 ho)] at hty)
  have h2 : ¬ (¬ (op = .shl ∨ op = .shr) ∧ w ≠ w') := fun ⟨ho, hw⟩ =>
    hw (by rwa [if_neg (mt (isShift_iff op).1 ho)] at hty)
  simp only [binVals, h1, h2, if_false]
  cases evalBin op w x y with
  | some r => exact ⟨rfl, rfl⟩
  | none => simp only [hs, Nat.lt_irrefl, and_false, if_false, failS]; rfl

theorem scalar_good (fns : List Fn) (n : Nat) : ∀ (e : Expr) (t : STy) (s : St), s.skip = 0 → tyE e = some t →
    GoodRes s t ((evals fns n).e e s) := by
  induction n with
  | zero => intro _ _ _ _ _; trivial
  | succ n ih =>
    intro e t s hs ht
    show GoodRes s t (stepE fns (evals fns n).e (evals fns n).es (evals fns n).b (evals fns n).arms e s)
    cases e with
    | lit w k =>
      obtain ⟨hk, rfl⟩ := tyE_lit ht
      show GoodRes s _ (if k ≤ w.max then _ else _)
      rw [if_pos hk]; exact ⟨rfl, rfl⟩
    | bool b =>
      cases ht
      exact ⟨trivial, rfl⟩
    | bin op a b =>
      rcases tyE_bin ht with ⟨w, w', hta, htb, rfl, hty⟩ | ⟨hta, htb, rfl, hop⟩
      · exact bind_good_int (ih a _ s hs hta) fun x => bind_good_int (ih b _ s hs htb) fun y =>
          binVals_int_good op w w' x y s hs hty
      · refine bind_good_bool (ih a _ s hs hta) fun x => bind_good_bool (ih b _ s hs htb) fun y => ?_
        cases op with
        | band | bor | bxor => exact ⟨trivial, rfl⟩
        | _ => cases hop
    | cmp op a b =>
      obtain ⟨rfl, ⟨w, hta, htb⟩ | ⟨hta, htb, hop⟩⟩ := tyE_cmp ht
      · refine bind_good_int (ih a _ s hs hta) fun x => bind_good_int (ih b _ s hs htb) fun y => ?_
        show GoodRes s _ (if w = w then _ else _)
        rw [if_pos rfl]; exact ⟨trivial, rfl⟩
      · refine bind_good_bool (ih a _ s hs hta) fun x => bind_good_bool (ih b _ s hs htb) fun y => ?_
        rcases hop with rfl | rfl <;> exact ⟨trivial, rfl⟩
    | land a b =>
      obtain ⟨hta, htb, rfl⟩ := tyE_land ht
      refine bind_good_bool (ih a _ s hs hta) fun x => ?_
      cases x
      · exact ⟨trivial, rfl⟩
      · exact bind_good_bool (ih b _ s hs htb) fun y => ⟨trivial, rfl⟩
    | lor a b =>
      obtain ⟨hta, htb, rfl⟩ := tyE_lor ht
      refine bind_good_bool (ih a _ s hs hta) fun x => ?_
      cases x
      · exact bind_good_bool (ih b _ s hs htb) fun y => ⟨trivial, rfl⟩
      · exact ⟨trivial, rfl⟩
    | not a =>
      cases t with
      | int w => exact bind_good_int (ih a _ s hs ht) fun x => ⟨rfl, rfl⟩
      | bool => exact bind_good_bool (ih a _ s hs ht) fun x => ⟨trivial, rfl⟩
    | cast w a =>
      obtain ⟨w', hta, hbits, rfl⟩ := tyE_cast ht
      refine bind_good_int (ih a _ s hs hta) fun x => ?_
      show GoodRes s _ (if w'.bits ≤ w.bits then _ else _)
      rw [if_pos hbits]; exact ⟨rfl, rfl⟩
    | _ => cases ht

end SwayVerif.SwaySem
