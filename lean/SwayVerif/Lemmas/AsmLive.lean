import SwayVerif.Model.Asm
/-!
The liveness loop of `SwayVerif.Asm`. A pass that reports "not modified" leaves the tables unchanged,
and the tables then solve the dataflow inequations. The loop bound `liveFuel` of the model is never
exhausted: every round that reports "modified" adds a used register to one of the `2·|ops|`
duplicate-free sets, each of which only ever holds used registers.
-/
namespace SwayVerif.Asm

/-! ### sets as duplicate-free lists -/

theorem mem_ite_append {α : Type} {s : List α} {x y : α} [Decidable (x ∈ s)] :
    y ∈ (if x ∈ s then s else s ++ [x]) ↔ y ∈ s ∨ y = x := by
  split
  · exact ⟨Or.inl, fun h => h.elim id fun e => e ▸ ‹x ∈ s›⟩
  · rw [List.mem_append, List.mem_singleton]

theorem ins_of_mem {s : RSet} {r : Reg} (h : r ∈ s) : ins s r = s := if_pos h

theorem ins_of_not_mem {s : RSet} {r : Reg} (h : r ∉ s) : ins s r = s ++ [r] := if_neg h

theorem mem_ins {s : RSet} {r x : Reg} : x ∈ ins s r ↔ x ∈ s ∨ x = r := mem_ite_append

theorem mem_foldl_of {α β : Type} (f : List β → α → List β) (P : α → β → Prop)
    (hf : ∀ g a e, e ∈ f g a ↔ e ∈ g ∨ P a e) (l : List α) (g : List β) (e : β) :
    e ∈ l.foldl f g ↔ e ∈ g ∨ ∃ a ∈ l, P a e := by
  induction l generalizing g with
  | nil => simp only [List.foldl_nil, List.not_mem_nil, false_and, exists_false, or_false]
  | cons a l ih => simp only [List.foldl_cons, ih, hf, List.mem_cons, exists_eq_or_imp, or_assoc]

theorem mem_foldl_ins {rs : List Reg} {s : RSet} {x : Reg} :
    x ∈ rs.foldl ins s ↔ x ∈ s ∨ x ∈ rs := by
  rw [mem_foldl_of ins (fun a e => e = a) (fun _ _ _ => mem_ins), exists_eq_right']

theorem mem_dedup {l : List Reg} {x : Reg} : x ∈ dedup l ↔ x ∈ l :=
  mem_foldl_ins.trans (or_iff_right List.not_mem_nil)

theorem foldl_ins_eq_self {rs : List Reg} {s : RSet} (h : ∀ r ∈ rs, r ∈ s) : rs.foldl ins s = s := by
  induction rs generalizing s with
  | nil => rfl
  | cons r rs ih =>
    rw [List.foldl_cons, ins_of_mem (h r List.mem_cons_self)]
    exact ih fun x hx => h x (List.mem_cons_of_mem _ hx)

theorem nodup_foldl_ins {rs : List Reg} {s : RSet} (h : s.Nodup) : (rs.foldl ins s).Nodup := by
  induction rs generalizing s with
  | nil => exact h
  | cons r rs ih =>
    refine ih ?_
    by_cases hr : r ∈ s
    · rwa [ins_of_mem hr]
    · rw [ins_of_not_mem hr]
      exact List.nodup_append.2 ⟨h, List.pairwise_singleton _ r,
        fun x hx y hy e => hr (List.mem_singleton.1 hy ▸ e ▸ hx)⟩

theorem length_foldl_ins_ge (rs : List Reg) (s : RSet) : s.length ≤ (rs.foldl ins s).length := by
  induction rs generalizing s with
  | nil => exact Nat.le_refl _
  | cons r rs ih =>
    refine Nat.le_trans ?_ (ih (ins s r))
    by_cases hr : r ∈ s
    · rw [ins_of_mem hr]; exact Nat.le_refl _
    · rw [ins_of_not_mem hr, List.length_append]; exact Nat.le_add_right _ _

theorem length_foldl_ins_gt (rs : List Reg) (s : RSet) (h : ∃ r ∈ rs, r ∉ s) :
    s.length < (rs.foldl ins s).length := by
  induction rs generalizing s with
  | nil => obtain ⟨r, hr, _⟩ := h; cases hr
  | cons a rs ih =>
    rw [List.foldl_cons]
    by_cases ha : a ∈ s
    · obtain ⟨r, hr, hrs⟩ := h
      rw [ins_of_mem ha]
      exact ih s ⟨r, (List.mem_cons.1 hr).resolve_left fun e => hrs (e ▸ ha), hrs⟩
    · refine Nat.lt_of_lt_of_le ?_ (length_foldl_ins_ge rs (ins s a))
      rw [ins_of_not_mem ha, List.length_append]
      exact Nat.lt_succ_self _

theorem insAll_fst_mem {s : RSet} {rs : List Reg} {x : Reg} :
    x ∈ (insAll s rs).1 ↔ x ∈ s ∨ x ∈ rs := mem_foldl_ins

theorem insAll_unchanged {s : RSet} {rs : List Reg} (h : (insAll s rs).2 = false) :
    (∀ r ∈ rs, r ∈ s) ∧ (insAll s rs).1 = s := by
  have hall : ∀ r ∈ rs, r ∈ s := by
    simp only [insAll, Bool.not_eq_false', List.all_eq_true, decide_eq_true_eq] at h
    exact h
  exact ⟨hall, foldl_ins_eq_self hall⟩

theorem insAll_length (s : RSet) (rs : List Reg) :
    s.length ≤ (insAll s rs).1.length ∧ ((insAll s rs).2 = true → s.length < (insAll s rs).1.length) := by
  refine ⟨length_foldl_ins_ge rs s, fun h => length_foldl_ins_gt rs s ?_⟩
  simp only [insAll, Bool.not_eq_true', List.all_eq_false, decide_eq_true_eq] at h
  exact h

theorem set_getD_self {α : Type} (l : List α) (i : Nat) (d : α) : l.set i (l.getD i d) = l := by
  induction l generalizing i with
  | nil => rfl
  | cons a l ih =>
    cases i with
    | zero => rfl
    | succ i => simp only [List.set_cons_succ, List.getD_cons_succ, ih]

/-! ### the dataflow inequations -/

def SolvedAt (ic : Bool) (li lo : List RSet) (i : Nat) (op : AOp) : Prop :=
  (∀ r ∈ op.uses, keepReg ic r = true → r ∈ li.getD i []) ∧
  (∀ r ∈ lo.getD i [], r ∉ op.defs → r ∈ li.getD i []) ∧
  (∀ s ∈ op.succ, ∀ r ∈ li.getD s [], r ∈ lo.getD i [])

def Solution (ic : Bool) (ops : List AOp) (li lo : List RSet) : Prop :=
  ∀ i op, ops[i]? = some op → SolvedAt ic li lo i op

theorem solvedAt_iff {ic li lo i op} : solvedAt ic li lo i op = true ↔ SolvedAt ic li lo i op := by
  simp only [solvedAt, SolvedAt, Bool.and_eq_true, List.all_eq_true, Bool.or_eq_true,
    Bool.not_eq_true', decide_eq_true_eq, Classical.or_iff_not_imp_left, Bool.not_eq_false, and_assoc]

theorem indexed_eq (ops : List AOp) (k : Nat) : indexed ops k = ops.zipIdx k := by
  induction ops generalizing k with
  | nil => rfl
  | cons a ops ih => rw [indexed, ih, List.zipIdx_cons]

theorem mem_indexed {ops : List AOp} {op : AOp} {i : Nat} :
    (op, i) ∈ indexed ops 0 ↔ ops[i]? = some op := by
  rw [indexed_eq, List.mk_mem_zipIdx_iff_getElem?]

theorem isSolution_iff {ic ops li lo} : isSolution ic ops li lo = true ↔ Solution ic ops li lo := by
  unfold isSolution Solution
  simp only [List.all_eq_true, solvedAt_iff]
  exact ⟨fun h i op hi => h (op, i) (mem_indexed.2 hi), fun h ⟨op, i⟩ hx => h i op (mem_indexed.1 hx)⟩

/-! ### an unmodified pass is a fixpoint and a solution -/

theorem stepAt_unchanged {ic st i op} (h : (stepAt ic st i op).2 = false) :
    (stepAt ic st i op).1 = st ∧ SolvedAt ic st.liveIn st.liveOut i op := by
  simp only [stepAt, Bool.or_eq_false_iff] at h
  obtain ⟨h1, h2⟩ := h
  obtain ⟨a1, e1⟩ := insAll_unchanged h1
  rw [e1] at h2
  obtain ⟨a2, e2⟩ := insAll_unchanged h2
  constructor
  · simp only [stepAt, e1, e2, set_getD_self]
  · refine ⟨fun r hr hk => ?_, fun r hr hd => ?_, fun s hs r hr => ?_⟩
    · exact a2 r (List.mem_append_left _ (List.mem_filter.2 ⟨hr, hk⟩))
    · refine a2 r (List.mem_append_right _ (List.mem_filter.2 ⟨hr, ?_⟩))
      simp only [Bool.not_eq_true', decide_eq_false_iff_not, List.mem_filter, not_and]
      exact fun hd' => absurd hd' hd
    · exact a1 r (List.mem_flatMap.2 ⟨s, hs, hr⟩)

theorem foldl_passStep_unchanged {ic} (xs : List (AOp × Nat)) (st st' : LState) (m : Bool)
    (h : xs.foldl (passStep ic) (st, m) = (st', false)) :
    m = false ∧ st' = st ∧ ∀ x ∈ xs, SolvedAt ic st.liveIn st.liveOut x.2 x.1 := by
  induction xs generalizing st m with
  | nil =>
    simp only [List.foldl_nil, Prod.mk.injEq] at h
    exact ⟨h.2, h.1.symm, by simp⟩
  | cons x xs ih =>
    simp only [List.foldl_cons, passStep] at h
    obtain ⟨hm, hst, hall⟩ := ih _ _ h
    simp only [Bool.or_eq_false_iff] at hm
    obtain ⟨e, hs⟩ := stepAt_unchanged hm.2
    rw [e] at hst hall
    refine ⟨hm.1, hst, fun y hy => ?_⟩
    rcases List.mem_cons.1 hy with rfl | hy
    · exact hs
    · exact hall y hy

theorem pass_unchanged {ic ops st} (h : (pass ic ops st).2 = false) :
    (pass ic ops st).1 = st ∧ Solution ic ops st.liveIn st.liveOut := by
  have hp : pass ic ops st = ((pass ic ops st).1, false) := Prod.ext rfl h
  obtain ⟨_, hst, hall⟩ := foldl_passStep_unchanged _ _ _ _ hp
  refine ⟨hst, fun i op hi => ?_⟩
  exact hall (op, i) (List.mem_reverse.2 (mem_indexed.2 hi))

theorem liveLoop_solution {ic ops fuel st r} (h : liveLoop ic ops fuel st = some r) :
    Solution ic ops r.liveIn r.liveOut := by
  induction fuel generalizing st with
  | zero => simp [liveLoop] at h
  | succ f ih =>
    simp only [liveLoop] at h
    split at h
    · exact ih h
    · rename_i hm
      simp only [Bool.not_eq_true] at hm
      obtain ⟨e, hs⟩ := pass_unchanged hm
      simp only [Option.some.injEq] at h
      rw [← h, e]; exact hs

/-! ### soundness along paths -/

/-- On some path starting with the execution of op `i`, register `r` is read before it is
redefined. -/
inductive ReadBeforeDef (ops : List AOp) (r : Reg) : Nat → Prop
  | here {i op} : ops[i]? = some op → r ∈ op.uses → ReadBeforeDef ops r i
  | step {i op s} : ops[i]? = some op → r ∉ op.defs → s ∈ op.succ → ReadBeforeDef ops r s →
      ReadBeforeDef ops r i

theorem solution_liveIn_of_read {ic ops li lo r i} (hs : Solution ic ops li lo)
    (hk : keepReg ic r = true) (h : ReadBeforeDef ops r i) : r ∈ li.getD i [] := by
  induction h with
  | here ho hu => exact (hs _ _ ho).1 r hu hk
  | step ho hd hsucc _ ih => exact (hs _ _ ho).2.1 r ((hs _ _ ho).2.2 _ hsucc r ih) hd

/-! ### the loop bound is never exhausted -/

def tot (l : List RSet) : Nat := (l.map List.length).sum

/-- the number of entries of both tables: what every modifying round increases -/
def LState.size (st : LState) : Nat := tot st.liveIn + tot st.liveOut

/-- the registers the analysis can ever put into a set -/
def usedRegs (ic : Bool) (ops : List AOp) : List Reg := (ops.flatMap (·.uses)).filter (keepReg ic)

theorem tot_cons (a : RSet) (l : List RSet) : tot (a :: l) = a.length + tot l := by
  rw [tot, List.map_cons, List.sum_cons, tot]

theorem tot_set_le (l : List RSet) (i : Nat) (x : RSet) (h : (l.getD i []).length ≤ x.length) :
    tot l ≤ tot (l.set i x) := by
  induction l generalizing i with
  | nil => exact Nat.le_refl _
  | cons a l ih =>
    cases i with
    | zero => rw [List.set_cons_zero, tot_cons, tot_cons]; exact Nat.add_le_add_right h _
    | succ i => rw [List.set_cons_succ, tot_cons, tot_cons]; exact Nat.add_le_add_left (ih i h) _

theorem tot_set_lt (l : List RSet) (i : Nat) (x : RSet) (hi : i < l.length)
    (h : (l.getD i []).length < x.length) : tot l < tot (l.set i x) := by
  induction l generalizing i with
  | nil => cases hi
  | cons a l ih =>
    cases i with
    | zero => rw [List.set_cons_zero, tot_cons, tot_cons]; exact Nat.add_lt_add_right h _
    | succ i =>
      rw [List.set_cons_succ, tot_cons, tot_cons]
      exact Nat.add_lt_add_left (ih i (Nat.lt_of_succ_lt_succ hi) h) _

def SetOk (ic : Bool) (ops : List AOp) (s : RSet) : Prop := s.Nodup ∧ ∀ r ∈ s, r ∈ usedRegs ic ops

structure LInv (ic : Bool) (ops : List AOp) (st : LState) : Prop where
  lenIn : st.liveIn.length = ops.length
  lenOut : st.liveOut.length = ops.length
  okIn : ∀ s ∈ st.liveIn, SetOk ic ops s
  okOut : ∀ s ∈ st.liveOut, SetOk ic ops s

theorem setOk_getD {ic ops} {l : List RSet} (h : ∀ s ∈ l, SetOk ic ops s) (i : Nat) :
    SetOk ic ops (l.getD i []) := by
  rw [List.getD_eq_getElem?_getD]
  cases hi : l[i]? with
  | none => exact ⟨List.nodup_nil, nofun⟩
  | some s => exact h s (List.mem_of_getElem? hi)

theorem setOk_insAll {ic ops} {s : RSet} {rs : List Reg} (hs : SetOk ic ops s)
    (hrs : ∀ r ∈ rs, r ∈ usedRegs ic ops) : SetOk ic ops (insAll s rs).1 :=
  ⟨nodup_foldl_ins hs.1, fun r hr => (insAll_fst_mem.1 hr).elim (hs.2 r) (hrs r)⟩

theorem setOk_set {ic ops} {l : List RSet} {x : RSet} (h : ∀ s ∈ l, SetOk ic ops s)
    (hx : SetOk ic ops x) (i : Nat) : ∀ s ∈ l.set i x, SetOk ic ops s :=
  fun s hs => (List.mem_or_eq_of_mem_set hs).elim (h s) fun e => e ▸ hx

theorem stepAt_inv {ic ops st i op} (inv : LInv ic ops st) (hi : i < ops.length) (hop : op ∈ ops) :
    LInv ic ops (stepAt ic st i op).1 ∧ st.size ≤ (stepAt ic st i op).1.size ∧
    ((stepAt ic st i op).2 = true → st.size < (stepAt ic st i op).1.size) := by
  have hiIn : i < st.liveIn.length := inv.lenIn ▸ hi
  have hiOut : i < st.liveOut.length := inv.lenOut ▸ hi
  have hlo : SetOk ic ops
      (insAll (st.liveOut.getD i []) (op.succ.flatMap fun s => st.liveIn.getD s [])).1 :=
    setOk_insAll (setOk_getD inv.okOut i) fun r hr => by
      obtain ⟨s, _, hrs⟩ := List.mem_flatMap.1 hr
      exact (setOk_getD inv.okIn s).2 r hrs
  refine ⟨⟨(List.length_set ..).trans inv.lenIn, (List.length_set ..).trans inv.lenOut,
      setOk_set inv.okIn (setOk_insAll (setOk_getD inv.okIn i) fun r hr => ?_) i,
      setOk_set inv.okOut hlo i⟩,
    Nat.add_le_add (tot_set_le _ _ _ (insAll_length _ _).1) (tot_set_le _ _ _ (insAll_length _ _).1),
    fun hflag => ?_⟩
  · -- the new live-in set: the old one, the uses, and what is live out and not defined
    rcases List.mem_append.1 hr with h | h
    · obtain ⟨hu, hk⟩ := List.mem_filter.1 h
      exact List.mem_filter.2 ⟨List.mem_flatMap.2 ⟨op, hop, hu⟩, hk⟩
    · exact hlo.2 r (List.mem_filter.1 h).1
  · rcases Bool.or_eq_true_iff.1 hflag with h | h
    · exact Nat.add_lt_add_of_le_of_lt (tot_set_le _ _ _ (insAll_length _ _).1)
        (tot_set_lt _ _ _ hiOut ((insAll_length _ _).2 h))
    · exact Nat.add_lt_add_of_lt_of_le (tot_set_lt _ _ _ hiIn ((insAll_length _ _).2 h))
        (tot_set_le _ _ _ (insAll_length _ _).1)

theorem foldl_passStep_inv {ic ops} (xs : List (AOp × Nat))
    (hxs : ∀ x ∈ xs, x.2 < ops.length ∧ x.1 ∈ ops) (st : LState) (m : Bool) (inv : LInv ic ops st) :
    LInv ic ops (xs.foldl (passStep ic) (st, m)).1 ∧ st.size ≤ (xs.foldl (passStep ic) (st, m)).1.size ∧
    ((xs.foldl (passStep ic) (st, m)).2 = true → m = false →
      st.size < (xs.foldl (passStep ic) (st, m)).1.size) := by
  induction xs generalizing st m with
  | nil => exact ⟨inv, Nat.le_refl _, fun h hm => by simp only [List.foldl_nil] at h; rw [hm] at h; cases h⟩
  | cons x xs ih =>
    obtain ⟨hx2, hx1⟩ := hxs x (List.mem_cons_self ..)
    obtain ⟨inv1, hle1, hlt1⟩ := stepAt_inv (st := st) inv hx2 hx1
    obtain ⟨inv2, hle2, hlt2⟩ :=
      ih (fun y hy => hxs y (List.mem_cons_of_mem _ hy)) (stepAt ic st x.2 x.1).1
        (m || (stepAt ic st x.2 x.1).2) inv1
    simp only [List.foldl_cons, passStep]
    refine ⟨inv2, Nat.le_trans hle1 hle2, fun hfl hm => ?_⟩
    by_cases hc : (stepAt ic st x.2 x.1).2 = true
    · exact Nat.lt_of_lt_of_le (hlt1 hc) hle2
    · exact Nat.lt_of_le_of_lt hle1 (hlt2 hfl (by rw [hm, (Bool.not_eq_true _).mp hc]; rfl))

theorem pass_inv {ic ops st} (inv : LInv ic ops st) :
    LInv ic ops (pass ic ops st).1 ∧ st.size ≤ (pass ic ops st).1.size ∧
    ((pass ic ops st).2 = true → st.size < (pass ic ops st).1.size) := by
  have hxs : ∀ x ∈ (indexed ops 0).reverse, x.2 < ops.length ∧ x.1 ∈ ops := by
    rintro ⟨op, i⟩ hx
    have := mem_indexed.1 (List.mem_reverse.1 hx)
    exact ⟨(List.getElem?_eq_some_iff.1 this).1, List.mem_of_getElem? this⟩
  obtain ⟨a, b, c⟩ := foldl_passStep_inv (ic := ic) _ hxs st false inv
  exact ⟨a, b, fun h => c h rfl⟩

theorem tot_le {ic ops} {l : List RSet} (h : ∀ s ∈ l, SetOk ic ops s) :
    tot l ≤ l.length * (usedRegs ic ops).length := by
  induction l with
  | nil => exact Nat.le_of_eq (Nat.zero_mul _).symm
  | cons a l ih =>
    rw [tot_cons, List.length_cons, Nat.succ_mul, Nat.add_comm]
    exact Nat.add_le_add (ih fun s hs => h s (List.mem_cons_of_mem _ hs))
      ((h a List.mem_cons_self).1.length_le_of_subset (h a List.mem_cons_self).2)

theorem linv_bound {ic ops st} (inv : LInv ic ops st) :
    st.size ≤ 2 * ops.length * (usedRegs ic ops).length := by
  have h1 := tot_le inv.okIn
  have h2 := tot_le inv.okOut
  rw [inv.lenIn] at h1
  rw [inv.lenOut] at h2
  rw [Nat.mul_assoc, Nat.two_mul]
  exact Nat.add_le_add h1 h2

theorem liveLoop_ne_none {ic ops} (fuel : Nat) (st : LState) (inv : LInv ic ops st)
    (h : 2 * ops.length * (usedRegs ic ops).length < st.size + fuel) :
    liveLoop ic ops fuel st ≠ none := by
  induction fuel generalizing st with
  | zero => have := linv_bound inv; omega
  | succ f ih =>
    obtain ⟨inv', hle, hlt⟩ := pass_inv (ic := ic) inv
    simp only [liveLoop]
    split
    · rename_i hm
      exact ih _ inv' (by have := hlt hm; omega)
    · simp

theorem liveLoop_inv {ic ops} (fuel : Nat) (st r : LState) (inv : LInv ic ops st)
    (h : liveLoop ic ops fuel st = some r) : LInv ic ops r := by
  induction fuel generalizing st with
  | zero => simp [liveLoop] at h
  | succ f ih =>
    obtain ⟨inv', _, _⟩ := pass_inv (ic := ic) inv
    simp only [liveLoop] at h
    split at h
    · exact ih _ inv' h
    · simp only [Option.some.injEq] at h
      rw [← h]; exact inv'

theorem linv_init (ic : Bool) (ops : List AOp) : LInv ic ops
    { liveIn := List.replicate ops.length [], liveOut := List.replicate ops.length [] } := by
  refine ⟨by simp, by simp, fun s hs => ?_, fun s hs => ?_⟩ <;>
  · rw [(List.mem_replicate.1 hs).2]; exact ⟨List.nodup_nil, by simp⟩

theorem foldl_uses_length (ops : List AOp) (k : Nat) :
    ops.foldl (fun n op => n + op.uses.length) k = k + (ops.flatMap (·.uses)).length := by
  induction ops generalizing k with
  | nil => simp
  | cons a ops ih => simp only [List.foldl_cons, ih, List.flatMap_cons, List.length_append]; omega

theorem livenessFull_ne_none (ic : Bool) (ops : List AOp) : livenessFull ic ops ≠ none := by
  unfold livenessFull
  apply liveLoop_ne_none
  · exact linv_init ic ops
  · have hU : (usedRegs ic ops).length ≤ (ops.flatMap (·.uses)).length := List.length_filter_le _ _
    have hf : liveFuel ops = 2 * ops.length * (ops.flatMap (·.uses)).length + 2 := by
      unfold liveFuel; rw [foldl_uses_length]; simp
    rw [hf]
    have := Nat.mul_le_mul_left (2 * ops.length) hU
    omega

end SwayVerif.Asm
