import SwayVerif.Model.DataSection
/-!
For C13. Layout: `serializeChunks` and `offsetAt` satisfy a recursion on the chunk list (`ser_cons`, `offsetAt_cons_succ`);
the facts about offsets, slices and patches are inductions along it.
Insertion: `insert_cases` says once what `insert_data_value` does: it finds an equivalent entry and changes nothing,
or appends under an id that did not resolve before. That an id keeps resolving to the same entry, and that the
pointer map stays well-formed (`PtrsWF`, `WordsPlain`), is read off it.
Emission: under these two invariants every op that `to_bytecode_mut` emits addresses its entry at the final offset
(`emitOp_resolves`); `toBytecode_load_addr` runs the three passes on the program whose layout is not stable.
-/
namespace SwayVerif.DataSection

/-! ### `roundUp8`, `padTo8` -/

theorem roundUp8_ge (n : Nat) : n ≤ roundUp8 n := by unfold roundUp8; omega
theorem roundUp8_mod (n : Nat) : roundUp8 n % 8 = 0 := Nat.sub_mod_eq_zero_of_mod_eq (Nat.mod_mod _ _).symm
theorem roundUp8_lt (n : Nat) : roundUp8 n < n + 8 := by unfold roundUp8; omega

theorem roundUp8_add (a b : Nat) (h : a % 8 = 0) : roundUp8 (a + b) = a + roundUp8 b := by
  obtain ⟨k, rfl⟩ := Nat.dvd_of_mod_eq_zero h
  unfold roundUp8
  rw [Nat.add_assoc, Nat.mul_add_mod]
  exact Nat.add_sub_assoc (Nat.mod_le _ _) _

theorem roundUp8_of_mod (n : Nat) (h : n % 8 = 0) : roundUp8 n = n := roundUp8_add n 0 h

@[simp] theorem zeros_length (n : Nat) : (zeros n).length = n := by simp [zeros]

theorem padTo8_length (bs : List Byte) : (padTo8 bs).length = roundUp8 bs.length := by
  rw [padTo8, List.length_append, zeros_length, Nat.add_sub_cancel' (roundUp8_ge _)]

theorem padTo8_length_mod (bs : List Byte) : (padTo8 bs).length % 8 = 0 := by
  rw [padTo8_length]; exact roundUp8_mod _

theorem padTo8_append (buf c : List Byte) (h : buf.length % 8 = 0) :
    padTo8 (buf ++ c) = buf ++ padTo8 c := by
  unfold padTo8
  rw [List.length_append, roundUp8_add _ _ h, Nat.add_sub_add_left, List.append_assoc]

/-! ### `serializeChunks` and `offsetAt` by recursion on the chunk list

Both are left folds whose accumulator stays word-aligned, so the accumulator can be pulled out. -/

theorem foldl_ser (cs : List (List Byte)) : ∀ (buf : List Byte), buf.length % 8 = 0 →
    cs.foldl (fun buf c => padTo8 (buf ++ c)) buf = buf ++ serializeChunks cs := by
  induction cs with
  | nil => intro buf _; simp [serializeChunks]
  | cons c cs ih =>
    intro buf h
    simp only [List.foldl_cons, serializeChunks]
    rw [ih _ (padTo8_length_mod _), ih _ (padTo8_length_mod _), padTo8_append _ _ h]
    simp [serializeChunks]

theorem ser_nil : serializeChunks [] = [] := rfl

theorem ser_cons (c : List Byte) (cs : List (List Byte)) :
    serializeChunks (c :: cs) = padTo8 c ++ serializeChunks cs :=
  foldl_ser cs (padTo8 ([] ++ c)) (padTo8_length_mod _)

theorem foldl_off (ls : List (List Byte)) : ∀ (a : Nat), a % 8 = 0 →
    ls.foldl (fun off c => roundUp8 (off + c.length)) a
      = a + ls.foldl (fun off c => roundUp8 (off + c.length)) 0 := by
  induction ls with
  | nil => intro a _; simp
  | cons c cs ih =>
    intro a h
    simp only [List.foldl_cons]
    rw [ih _ (roundUp8_mod _), ih (roundUp8 (0 + c.length)) (roundUp8_mod _), roundUp8_add _ _ h,
      Nat.zero_add, Nat.add_assoc]

@[simp] theorem offsetAt_zero (cs : List (List Byte)) : offsetAt cs 0 = 0 := by simp [offsetAt]
@[simp] theorem offsetAt_nil (i : Nat) : offsetAt [] i = 0 := by simp [offsetAt]

theorem offsetAt_cons_succ (c : List Byte) (cs : List (List Byte)) (i : Nat) :
    offsetAt (c :: cs) (i + 1) = roundUp8 c.length + offsetAt cs i := by
  simp only [offsetAt, List.take_succ_cons, List.foldl_cons]
  rw [foldl_off _ _ (roundUp8_mod _)]; simp

theorem offsetAt_mod8 (cs : List (List Byte)) (i : Nat) : offsetAt cs i % 8 = 0 := by
  induction cs generalizing i with
  | nil => simp
  | cons c cs ih =>
    cases i with
    | zero => simp
    | succ i => rw [offsetAt_cons_succ, Nat.add_mod, roundUp8_mod, ih i]

theorem offsetAt_succ (cs : List (List Byte)) (i : Nat) (h : i < cs.length) :
    offsetAt cs (i + 1) = roundUp8 (offsetAt cs i + cs[i].length) := by
  induction cs generalizing i with
  | nil => simp at h
  | cons c cs ih =>
    cases i with
    | zero => simp [offsetAt_cons_succ]
    | succ i =>
      rw [offsetAt_cons_succ, offsetAt_cons_succ, ih i (Nat.lt_of_succ_lt_succ h), List.getElem_cons_succ,
        Nat.add_assoc, roundUp8_add _ _ (roundUp8_mod _)]

theorem offsetAt_mono (cs : List (List Byte)) {i j : Nat} (h : i ≤ j) : offsetAt cs i ≤ offsetAt cs j := by
  induction cs generalizing i j with
  | nil => simp
  | cons c cs ih =>
    cases i with
    | zero => simp
    | succ i =>
      cases j with
      | zero => omega
      | succ j =>
        rw [offsetAt_cons_succ, offsetAt_cons_succ]
        exact Nat.add_le_add_left (ih (Nat.le_of_succ_le_succ h)) _

theorem offsetAt_end_le (cs : List (List Byte)) {i j : Nat} (hij : i < j) (hj : j ≤ cs.length) :
    offsetAt cs i + (cs[i]'(Nat.lt_of_lt_of_le hij hj)).length ≤ offsetAt cs j := by
  have h := roundUp8_ge (offsetAt cs i + (cs[i]'(Nat.lt_of_lt_of_le hij hj)).length)
  rw [← offsetAt_succ] at h
  exact Nat.le_trans h (offsetAt_mono cs hij)

theorem ser_length (cs : List (List Byte)) : (serializeChunks cs).length = offsetAt cs cs.length := by
  induction cs with
  | nil => simp [ser_nil]
  | cons c cs ih => rw [ser_cons, List.length_cons, offsetAt_cons_succ, List.length_append, padTo8_length, ih]

theorem offsetAt_of_ge (cs : List (List Byte)) (i : Nat) (h : cs.length ≤ i) :
    offsetAt cs i = offsetAt cs cs.length := by
  simp [offsetAt, List.take_of_length_le h]

theorem offsetAt_eq_lengths (cs : List (List Byte)) (k : Nat) :
    offsetAt cs k = ((cs.map List.length).take k).foldl (fun off n => roundUp8 (off + n)) 0 := by
  rw [← List.map_take, List.foldl_map]; rfl

theorem offsetAt_set (cs : List (List Byte)) (i : Nat) (new : List Byte) (hi : i < cs.length)
    (hl : new.length = cs[i].length) (k : Nat) : offsetAt (cs.set i new) k = offsetAt cs k := by
  rw [offsetAt_eq_lengths, offsetAt_eq_lengths, List.map_set, hl, ← List.getElem_map List.length,
    List.set_getElem_self]
  rwa [List.length_map]

/-! ### slices and patches of the serialised chunks -/

theorem slice_append_left (p r : List Byte) (off len : Nat) :
    slice (p ++ r) (p.length + off) len = slice r off len := by
  rw [slice, List.drop_length_add_append, slice]

theorem slice_padTo8_zero (c r : List Byte) : slice (padTo8 c ++ r) 0 c.length = c := by
  simp [slice, padTo8]

theorem slice_ser (cs : List (List Byte)) (i : Nat) (h : i < cs.length) :
    slice (serializeChunks cs) (offsetAt cs i) cs[i].length = cs[i] := by
  induction cs generalizing i with
  | nil => simp at h
  | cons c cs ih =>
    cases i with
    | zero => rw [ser_cons]; simpa using slice_padTo8_zero c _
    | succ i =>
      rw [ser_cons, offsetAt_cons_succ, ← padTo8_length, slice_append_left]
      simpa using ih i (Nat.lt_of_succ_lt_succ h)

theorem slice_ser_of_getElem? {cs : List (List Byte)} {i : Nat} {c : List Byte} (h : cs[i]? = some c) :
    slice (serializeChunks cs) (offsetAt cs i) c.length = c := by
  obtain ⟨hi, rfl⟩ := List.getElem?_eq_some_iff.mp h
  exact slice_ser cs i hi

theorem patch_append_left (p r new : List Byte) (off : Nat) :
    patch (p ++ r) (p.length + off) new = (patch r off new).map (p ++ ·) := by
  unfold patch
  rw [Nat.add_assoc, List.length_append, List.take_length_add_append, List.drop_length_add_append]
  simp only [Nat.add_le_add_iff_left]
  split <;> simp

theorem patch_padTo8_zero (c r new : List Byte) (hl : new.length = c.length) :
    patch (padTo8 c ++ r) 0 new = some (padTo8 new ++ r) := by
  have hle : 0 + new.length ≤ (padTo8 c ++ r).length := by
    rw [hl, Nat.zero_add, padTo8, List.append_assoc, List.length_append]; exact Nat.le_add_right _ _
  rw [patch, if_pos hle]
  simp [padTo8, hl]

theorem patch_ser (cs : List (List Byte)) (i : Nat) (new : List Byte) (hi : i < cs.length)
    (hl : new.length = cs[i].length) :
    patch (serializeChunks cs) (offsetAt cs i) new = some (serializeChunks (cs.set i new)) := by
  induction cs generalizing i with
  | nil => simp at hi
  | cons c cs ih =>
    cases i with
    | zero => rw [ser_cons, List.set_cons_zero, ser_cons]; simpa using patch_padTo8_zero c _ new hl
    | succ i =>
      rw [ser_cons, offsetAt_cons_succ, ← padTo8_length, patch_append_left,
        ih i (Nat.lt_of_succ_lt_succ hi) hl]
      simp [ser_cons]

theorem patch_frame (cs : List (List Byte)) (j : Nat) (new : List Byte) (hj : j < cs.length)
    (hl : new.length = cs[j].length) :
    ∃ buf', patch (serializeChunks cs) (offsetAt cs j) new = some buf'
      ∧ buf'.length = (serializeChunks cs).length
      ∧ slice buf' (offsetAt cs j) new.length = new
      ∧ ∀ k (hk : k < cs.length), k ≠ j → slice buf' (offsetAt cs k) cs[k].length = cs[k] := by
  have hs (k) (hk : k < cs.length) := slice_ser (cs.set j new) k (by rwa [List.length_set])
  simp only [offsetAt_set cs j new hj hl] at hs
  refine ⟨_, patch_ser cs j new hj hl, ?_, ?_, ?_⟩
  · rw [ser_length, ser_length, List.length_set, offsetAt_set _ _ _ hj hl]
  · simpa using hs j hj
  · intro k hk hkj
    simpa [List.getElem_set_ne (Ne.symm hkj)] using hs k hk

/-! ### entry lists and ids -/

@[simp] theorem length_chunks (es : List Entry) : (chunks es).length = es.length := List.length_map _

@[simp] theorem getElem_chunks (es : List Entry) (i : Nat) (h : i < (chunks es).length) :
    (chunks es)[i] = (es[i]'(by simpa using h)).toBytes := List.getElem_map _

theorem isCopy_of_isByte {e : Entry} (h : e.isByte = true) : e.isCopy = true := by
  unfold Entry.isByte at h; unfold Entry.isCopy
  cases hv : e.value <;> simp [hv] at h ⊢

theorem get_all {ds : DS} {id : DataId} {e : Entry} (h : ds.get id = some e) :
    ds.all[ds.absIdx id]? = some e := by
  unfold DS.get at h
  unfold DS.absIdx DS.all
  by_cases hc : id.conf = true
  · rw [if_pos hc] at h ⊢
    rw [List.getElem?_append_right (Nat.le_add_left _ _), Nat.add_sub_cancel]; exact h
  · rw [if_neg hc] at h ⊢
    rw [List.getElem?_append_left (List.getElem?_eq_some_iff.mp h).1]; exact h

theorem slice_serialize_id (ds : DS) (id : DataId) (e : Entry) (h : ds.get id = some e) :
    slice ds.serialize (ds.offsetOf id) e.toBytes.length = e.toBytes :=
  slice_ser_of_getElem? (cs := chunks ds.all) (by rw [chunks, List.getElem?_map, get_all h]; rfl)

/-! ### insertion -/

theorem equiv_iff {a b : Entry} :
    a.equiv b = true ↔ a.value.equiv b.value = true ∧ a.name = b.name ∧ a.toBytes = b.toBytes := by
  simp [Entry.equiv, and_assoc]

theorem findEquiv_some {es : List Entry} {e : Entry} {i : Nat} (h : findEquiv es e = some i) :
    ∃ x, es[i]? = some x ∧ x.equiv e = true := by
  obtain ⟨hi, hp, _⟩ := List.findIdx?_eq_some_iff_getElem.mp h
  exact ⟨es[i], List.getElem?_eq_getElem hi, hp⟩

theorem findEquiv_lt {es : List Entry} {e : Entry} {i : Nat} (h : findEquiv es e = some i) : i < es.length := by
  obtain ⟨x, hx, _⟩ := findEquiv_some h
  exact (List.getElem?_eq_some_iff.mp hx).1

theorem getElem?_concat {α} (l : List α) (e : α) (i : Nat) :
    (l ++ [e])[i]? = if i = l.length then some e else l[i]? := by
  rcases Nat.lt_trichotomy i l.length with h | rfl | h
  · rw [List.getElem?_append_left h, if_neg (Nat.ne_of_lt h)]
  · simp
  · rw [if_neg (Nat.ne_of_gt h), List.getElem?_eq_none (Nat.le_of_lt h),
      List.getElem?_eq_none (by rw [List.length_append]; exact h)]

theorem insert_cases (ds : DS) (e : Entry) :
    (∃ x, (ds.insert e).1 = ds ∧ ds.get (ds.insert e).2 = some x ∧ x.equiv e = true) ∨
    (ds.get (ds.insert e).2 = none ∧
      ∀ id, (ds.insert e).1.get id = if id = (ds.insert e).2 then some e else ds.get id) := by
  unfold DS.insert
  cases e.name with
  | none =>
    cases hf : findEquiv ds.nonConf e with
    | some i => obtain ⟨x, hx, hp⟩ := findEquiv_some hf; exact .inl ⟨x, rfl, hx, hp⟩
    | none =>
      refine .inr ⟨List.getElem?_eq_none (Nat.le_refl _), fun ⟨c, i⟩ => ?_⟩
      cases c
      · show (ds.nonConf ++ [e])[i]? =
          if (⟨false, i⟩ : DataId) = ⟨false, ds.nonConf.length⟩ then some e else ds.nonConf[i]?
        rw [getElem?_concat]
        simp only [DataId.mk.injEq, true_and]
      · exact (if_neg nofun).symm
  | some _ =>
    cases hf : findEquiv ds.conf e with
    | some i => obtain ⟨x, hx, hp⟩ := findEquiv_some hf; exact .inl ⟨x, rfl, hx, hp⟩
    | none =>
      refine .inr ⟨List.getElem?_eq_none (Nat.le_refl _), fun ⟨c, i⟩ => ?_⟩
      cases c
      · exact (if_neg nofun).symm
      · show (ds.conf ++ [e])[i]? =
          if (⟨true, i⟩ : DataId) = ⟨true, ds.conf.length⟩ then some e else ds.conf[i]?
        rw [getElem?_concat]
        simp only [DataId.mk.injEq, true_and]

theorem insert_ptrs (ds : DS) (e : Entry) : (ds.insert e).1.ptrs = ds.ptrs := by
  unfold DS.insert; split <;> split <;> rfl

theorem insert_get (ds : DS) (e : Entry) :
    ∃ x, (ds.insert e).1.get (ds.insert e).2 = some x ∧ (x = e ∨ x.equiv e = true) := by
  rcases insert_cases ds e with ⟨x, h, hx, hp⟩ | ⟨_, h⟩
  · exact ⟨x, by rw [h]; exact hx, .inr hp⟩
  · exact ⟨e, by rw [h, if_pos rfl], .inl rfl⟩

theorem insert_get_mono (ds : DS) (e : Entry) (id : DataId) (x : Entry) (h : ds.get id = some x) :
    (ds.insert e).1.get id = some x := by
  rcases insert_cases ds e with ⟨_, h', _⟩ | ⟨hn, h'⟩
  · rw [h']; exact h
  · rw [h', if_neg (fun hid => by rw [hid, hn] at h; cases h)]; exact h

theorem insert_get_new (ds : DS) (e : Entry) (id : DataId) (x : Entry) (h : (ds.insert e).1.get id = some x) :
    ds.get id = some x ∨ x = e := by
  rcases insert_cases ds e with ⟨_, h', _⟩ | ⟨_, h'⟩
  · rw [h'] at h; exact .inl h
  · rw [h'] at h; split at h
    · exact .inr (Option.some.inj h).symm
    · exact .inl h

theorem appendPointer_get (ds : DS) (v : Nat) (id : DataId) :
    (ds.appendPointer v).1.get id = (ds.insert (wordEntry v)).1.get id := rfl

theorem apply_get_mono (ds : DS) (op : DOp) (id : DataId) (x : Entry) (h : ds.get id = some x) :
    (ds.apply op).1.get id = some x := by
  cases op with
  | insert e => exact insert_get_mono ds e id x h
  | pointer v => exact (appendPointer_get ds v id).trans (insert_get_mono ds _ id x h)

theorem run_get_mono (ops : List DOp) : ∀ (ds : DS) (id : DataId) (x : Entry), ds.get id = some x →
    (ds.run ops).1.get id = some x := by
  induction ops with
  | nil => intro ds id x h; exact h
  | cons op ops ih => intro ds id x h; exact ih _ id x (apply_get_mono ds op id x h)

theorem run_insert_name (ops : List DOp) : ∀ (ds : DS) (a : Nat) (e : Entry), ops[a]? = some (.insert e) →
    ∃ id x, (ds.run ops).2[a]? = some id ∧ (ds.run ops).1.get id = some x ∧ x.name = e.name
      ∧ x.toBytes = e.toBytes := by
  induction ops with
  | nil => intro ds a e h; simp at h
  | cons op ops ih =>
    intro ds a e h
    cases a with
    | zero =>
      cases Option.some.inj h
      obtain ⟨x, hx, hxe⟩ := insert_get ds e
      have hnb : x.name = e.name ∧ x.toBytes = e.toBytes := by
        rcases hxe with rfl | hp
        · exact ⟨rfl, rfl⟩
        · exact (equiv_iff.mp hp).2
      exact ⟨(ds.insert e).2, x, rfl, run_get_mono ops _ _ _ hx, hnb⟩
    | succ a => exact ih (ds.apply op).1 a e h

/-! ### inversion of `Res` -/

theorem Res.bind_eq_ok {α β} {r : Res α} {f : α → Res β} {b : β} (h : r.bind f = .ok b) :
    ∃ a, r = .ok a ∧ f a = .ok b := by
  cases r with
  | ok a => exact ⟨a, rfl, h⟩
  | panic p => simp [Res.bind] at h

theorem Res.ite_panic_eq_ok {α} {c : Prop} [Decidable c] {p : Panic} {r : Res α} {b : α}
    (h : (if c then .panic p else r) = .ok b) : ¬ c ∧ r = .ok b := by
  split at h
  · cases h
  · exact ⟨‹_›, h⟩

/-! ### the pointer map -/

def PtrsWF (ds : DS) : Prop :=
  ∀ v id, (v, id) ∈ ds.ptrs → ∃ e, ds.get id = some e ∧ e.value = .word v

/-- top-level word entries carry no extra padding (the compiler creates them with `Entry::new_word(_, _, None)`) -/
def WordsPlain (ds : DS) : Prop :=
  ∀ id e v, ds.get id = some e → e.value = .word v → e.toBytes = be64 v

theorem PtrsWF_of_isEmpty {ds : DS} (h : ds.ptrs.isEmpty = true) : PtrsWF ds := by
  intro v id hm
  rw [List.isEmpty_iff.mp h] at hm; cases hm

theorem WordsPlain_of_noCopy {ds : DS} (h : ds.all.all (fun e => !e.isCopy) = true) : WordsPlain ds := by
  intro id e v hg hv
  have := List.all_eq_true.mp h e (List.mem_of_getElem? (get_all hg))
  simp [Entry.isCopy, hv] at this

theorem be64_length (v : Nat) : (be64 v).length = 8 := rfl

theorem wordEntry_toBytes (v : Nat) : (wordEntry v).toBytes = be64 v := by
  simp [wordEntry, Entry.toBytes, padBytes, Datum.raw, be64_length, zeros]

theorem Datum.equiv_word {d : Datum} {v : Nat} (h : d.equiv (.word v) = true) : d = .word v := by
  cases d <;> simp [Datum.equiv] at h
  subst h; rfl

theorem value_of_equiv_wordEntry {x : Entry} {v : Nat} (h : x.equiv (wordEntry v) = true) : x.value = .word v :=
  Datum.equiv_word (equiv_iff.mp h).1

theorem appendPointer_ptrs (ds : DS) (v : Nat) :
    (ds.appendPointer v).1.ptrs = (v, (ds.insert (wordEntry v)).2) :: ds.ptrs :=
  congrArg _ (insert_ptrs ds _)

theorem PtrsWF_appendPointer {ds : DS} (h : PtrsWF ds) (v : Nat) : PtrsWF (ds.appendPointer v).1 := by
  intro w id hm
  rw [appendPointer_ptrs] at hm
  rw [appendPointer_get]
  rcases List.mem_cons.mp hm with heq | hm'
  · cases heq
    obtain ⟨x, hx, hxe⟩ := insert_get ds (wordEntry v)
    refine ⟨x, hx, ?_⟩
    rcases hxe with rfl | hp
    · rfl
    · exact value_of_equiv_wordEntry hp
  · obtain ⟨e, he, hv⟩ := h w id hm'
    exact ⟨e, insert_get_mono ds _ id e he, hv⟩

theorem WordsPlain_appendPointer {ds : DS} (h : WordsPlain ds) (v : Nat) : WordsPlain (ds.appendPointer v).1 := by
  intro id e w he hw
  rw [appendPointer_get] at he
  rcases insert_get_new ds (wordEntry v) id e he with h0 | rfl
  · exact h id e w h0 hw
  · cases hw; exact wordEntry_toBytes v

theorem pass1_inv (off0 : Nat) (ops : List COp) : ∀ (ds : DS) (ofs : Nat) (dsf : DS),
    pass1 off0 ds ofs ops = .ok dsf → PtrsWF ds → WordsPlain ds → PtrsWF dsf ∧ WordsPlain dsf := by
  induction ops with
  | nil => intro ds ofs dsf h h1 h2; simp [pass1] at h; subst h; exact ⟨h1, h2⟩
  | cons op ops ih =>
    intro ds ofs dsf h h1 h2
    cases op with
    | fixed n => simp [pass1, opSize, Res.bind] at h; exact ih _ _ _ h h1 h2
    | addr id => simp [pass1, opSize, Res.bind] at h; exact ih _ _ _ h h1 h2
    | load id =>
      dsimp only [pass1] at h
      cases hg : ds.get id with
      | none => rw [hg] at h; simp at h
      | some e =>
        rw [hg] at h
        by_cases hc : e.isCopy
        · simp [hc] at h; exact ih _ _ _ h h1 h2
        · simp [hc] at h
          obtain ⟨ptr, _, h'⟩ := Res.bind_eq_ok h
          exact ih _ _ _ h' (PtrsWF_appendPointer h1 ptr) (WordsPlain_appendPointer h2 ptr)

/-! ### the emission pass addresses every entry at its final offset -/

theorem pointerValue_ok {off0 ofs offb ptr : Nat} (h : pointerValue off0 ofs offb = .ok ptr) :
    ptr + ofs + 4 = off0 + offb := by
  obtain ⟨h1, h⟩ := Res.ite_panic_eq_ok h
  obtain ⟨h2, h⟩ := Res.ite_panic_eq_ok h
  cases h; omega

theorem loadImm_ok {ds : DS} {id : DataId} {e : Entry} {imm : Nat} (h : loadImm ds id e = .ok imm) :
    (e.isByte = true → imm = ds.offsetOf id) ∧ (e.isByte = false → imm * 8 = ds.offsetOf id) := by
  obtain ⟨hm, h⟩ := Res.ite_panic_eq_ok h
  obtain ⟨_, h⟩ := Res.ite_panic_eq_ok h
  cases h
  constructor
  · intro hb; rw [if_pos hb]
  · intro hb; rw [if_neg (by simp [hb])]; omega

theorem pointerId_mem {ds : DS} {v : Nat} {pid : DataId} (h : ds.pointerId v = some pid) : (v, pid) ∈ ds.ptrs := by
  obtain ⟨⟨w, _⟩, hf, rfl⟩ := Option.map_eq_some_iff.mp h
  have hw : w = v := by simpa using List.find?_some hf
  exact hw ▸ List.mem_of_find?_eq_some hf

theorem emitOp_resolves (ds : DS) (off0 ofs : Nat) (op : COp) (e : Emit) (emits : List Emit)
    (hwf : PtrsWF ds) (hpl : WordsPlain ds) (h : emitOp ds off0 ofs op = .ok e)
    (hsmall : ∀ id, op = .addr id → ds.offsetOf id < 2 ^ 18) :
    emitResolves ⟨off0, ds, emits⟩ ofs op e = true := by
  cases op with
  | fixed n => cases h; exact beq_self_eq_true n
  | addr id =>
    dsimp only [emitOp] at h
    by_cases hle : ds.offsetOf id ≤ twelveBits
    · rw [if_pos hle] at h
      cases h; exact beq_self_eq_true _
    · rw [if_neg hle] at h
      obtain ⟨_, h⟩ := Res.ite_panic_eq_ok h
      cases h
      exact beq_iff_eq.mpr (Nat.mod_eq_of_lt (hsmall id rfl))
  | load id =>
    dsimp only [emitOp] at h
    split at h
    · cases h
    rename_i en hg
    obtain ⟨imm, himm, h⟩ := Res.bind_eq_ok h
    obtain ⟨hb, hnb⟩ := loadImm_ok himm
    by_cases hc : en.isCopy = true
    · rw [if_pos hc] at h; cases h
      cases hby : en.isByte
      · exact beq_iff_eq.mpr (hnb hby)
      · exact beq_iff_eq.mpr (hb hby)
    · rw [if_neg hc] at h
      obtain ⟨ptr, hptr, h⟩ := Res.bind_eq_ok h
      split at h
      · cases h
      rename_i pid hp
      split at h
      · cases h
      rename_i pe hpg
      obtain ⟨slot, hslot, h⟩ := Res.bind_eq_ok h
      cases h
      -- the slot holds a plain word entry with value `ptr`
      obtain ⟨pe', hpe', hval⟩ := hwf ptr pid (pointerId_mem hp)
      cases hpg.symm.trans hpe'
      have hs := (loadImm_ok hslot).2 (by simp [Entry.isByte, hval])
      have hsl := slice_serialize_id ds pid pe hpg
      rw [hpl pid pe ptr hpg hval, be64_length] at hsl
      exact Bool.and_eq_true_iff.mpr ⟨beq_iff_eq.mpr (hs ▸ hsl), beq_iff_eq.mpr (pointerValue_ok hptr)⟩

theorem pass2_resolves (ds : DS) (off0 : Nat) (E : List Emit) (hwf : PtrsWF ds) (hpl : WordsPlain ds)
    (ops : List COp) : ∀ (ofs : Nat) (emits : List Emit), pass2 ds off0 ofs ops = .ok emits →
    (∀ id, COp.addr id ∈ ops → ds.offsetOf id < 2 ^ 18) →
    allResolve ⟨off0, ds, E⟩ ofs ops emits = true := by
  induction ops with
  | nil => intro ofs emits h _; simp [pass2] at h; subst h; simp [allResolve]
  | cons op ops ih =>
    intro ofs emits h hs
    dsimp only [pass2] at h
    obtain ⟨e, he, h⟩ := Res.bind_eq_ok h
    obtain ⟨es, hes, h⟩ := Res.bind_eq_ok h
    simp at h; subst h
    have r1 := emitOp_resolves ds off0 ofs op e E hwf hpl he (fun id hid => hs id (by simp [hid]))
    have r2 := ih (ofs + e.size) es hes (fun id hid => hs id (by simp [hid]))
    simp [allResolve, r1, r2]

/-! ### a program on which the pointer pre-insertion pass moves a configurable -/

theorem toBytes_byteArray (bs : List Byte) (h : bs.length % 8 = 0) :
    (Entry.new (.byteArray bs) none none).toBytes = bs := by
  simp [Entry.new, Entry.toBytes, defaultPad, Datum.raw, arrayBytes, h, padBytes, zeros]

theorem equiv_wordEntry_false {b : Entry} (hc : b.isCopy = false) (v : Nat) : b.equiv (wordEntry v) = false :=
  Bool.eq_false_iff.mpr fun h => by simp [Entry.isCopy, value_of_equiv_wordEntry h] at hc

/-- One non-copy entry `b` of `n` bytes and one configurable; the program loads `b` and takes the address of
the configurable. The size pass sees the configurable at offset `n` (an `ADDI`, 4 bytes); the pre-insertion pass
appends the pointer word for the load after `b`, so the emission pass sees the configurable at `n + 8`. If that
no longer fits 12 bits the `ADDI` becomes `MOVI; ADD` and the final size assertion fails. -/
theorem toBytecode_load_addr (b c : Entry) (n : Nat) (hc : b.isCopy = false) (hl : b.toBytes.length = n)
    (h8 : n % 8 = 0) (hlo : n ≤ 4095) :
    toBytecode ⟨[b], [c], []⟩ [.load ⟨false, 0⟩, .addr ⟨true, 0⟩]
      = if n + 8 ≤ 4095 then
          .ok ⟨16, ⟨[b, wordEntry 12], [c], [(12, ⟨false, 1⟩)]⟩, [.ptrLoad (n / 8) 12, .addi (n + 8), .fixed 4]⟩
        else .panic .sizeAssert := by
  have hr : roundUp8 n = n := roundUp8_of_mod n h8
  have hw : (wordEntry 12).toBytes.length = 8 := by rw [wordEntry_toBytes, be64_length]
  have hwb : (wordEntry 12).isByte = false := rfl
  have hd : ¬ 4095 < n / 8 := by omega
  have hu : ¬ 4294967288 ≤ n := by omega
  have ha : DS.appendPointer ⟨[b], [c], []⟩ 12 = (⟨[b, wordEntry 12], [c], [(12, ⟨false, 1⟩)]⟩, ⟨false, 1⟩) := by
    simp [DS.appendPointer, DS.insert, findEquiv, equiv_wordEntry_false hc, show (wordEntry 12).name = none from rfl]
  -- symbolic run of the three passes: code size 8 + 4 = 12, padded to 16; pointer value 16 - 0 + 0 - 4 = 12
  simp [toBytecode, codeSize, opSize, pass1, pass2, emitOp, loadImm, pointerValue, ha, DS.pointerId, Res.bind,
    DS.get, DS.offsetOf, DS.offsetOfAbs, DS.absIdx, DS.all, chunks, offsetAt_cons_succ, hl, hr, hw, hc, hlo, hd, hu,
    h8, twelveBits, hwb, show roundUp8 8 = 8 from rfl]
  by_cases h : n ≤ 4087 <;> simp [h, emitsSize, Emit.size]

end SwayVerif.DataSection
