import SwayVerif.Model.AsmOpt
/-!
C07, one op at a time: what the theorems assume about the meaning of ops (`Respects`), the five ways
an op can behave (`kclass`, with the equations of `act`, `kills`, `flowSucc` over it), when two ops
make the same move (`ActRel`), and that one op does so on two register files that agree on the
registers it reads (`act_agree`).
-/
namespace SwayVerif.AsmOpt
open SwayVerif.Asm

variable {V M X : Type}

/-- two results of the same op on two register files: same memory / exit value, and the registers
the op may write agree -/
def SemRel (op : AOp) (amb : Reg → Bool) : Res V M X → Res V M X → Prop
  | .next r₂ m₂, .next r₂' m₂' =>
    m₂' = m₂ ∧ ∀ x, (x ∈ op.defs ∨ x ∈ op.defConst ∨ (op.sideEffect = true ∧ amb x = true)) → r₂ x = r₂' x
  | .exit x m₂, .exit x' m₂' => x' = x ∧ m₂' = m₂
  | _, _ => False

/-- What C07's theorems assume about the meaning of the ops, relative to the set `amb` of ambient
registers (registers side-effecting ops — calls — may read and write without declaring it). -/
structure Respects (mc : Machine V M X) (amb : Reg → Bool) : Prop where
  /-- only `def ∪ def_const` change (and, for side-effecting ops, ambient registers) -/
  frame : ∀ op r m r₂ m₂, mc.sem op r m = .next r₂ m₂ → ∀ x, x ∉ op.defs → x ∉ op.defConst →
    (op.sideEffect = false ∨ amb x = false) → r₂ x = r x
  /-- the result depends only on `use` (and, for side-effecting ops, ambient registers) and memory -/
  reads : ∀ op r r' m, (∀ x ∈ op.uses, r x = r' x) →
    (op.sideEffect = true → ∀ x, amb x = true → r x = r' x) →
    SemRel op amb (mc.sem op r m) (mc.sem op r' m)
  /-- an op without side effect neither stops the machine nor touches memory -/
  pure : ∀ op r m, op.sideEffect = false → ∃ r₂, mc.sem op r m = .next r₂ m
  /-- `NOOP`, `MOVE a a`, `MCP _ _ $zero`, `MCPI _ _ 0` change at most their `def_const` registers -/
  nop : ∀ op r m, nopWf op = true → ∃ r₂, mc.sem op r m = .next r₂ m ∧ ∀ x, x ∉ op.defConst → r₂ x = r x
  /-- apart from its destination a `MOVE` (that defines `$of`, `$err` like `NOOP`) does what `NOOP` does -/
  moveNoop : ∀ op r m r₂ m₂ r₃ m₃, op.kind = .move → op.defConst = noopOp.defConst →
    mc.sem op r m = .next r₂ m₂ →
    mc.sem noopOp r m = .next r₃ m₃ → m₂ = m₃ ∧ ∀ x, x ∉ op.defs → r₂ x = r₃ x

/-! ### the five ways an op can behave -/

/-- `silent`: falls through and changes nothing; `leave`: its meaning must stop the machine;
`plain`: its meaning decides, and it falls through if the machine goes on -/
inductive KClass where
  | silent | jump (l : Nat) | jnz (l : Nat) | leave | plain

def kclass : Kind → KClass
  | .label _ | .comment => .silent
  | .jump l => .jump l
  | .jnz l => .jnz l
  | .jmpaddr | .retcall | .rvrt => .leave
  | .move | .call _ | .other _ _ => .plain

theorem act_eq (mc : Machine V M X) (op : AOp) (r : Reg → V) (m : M) :
    act mc op r m = match kclass op.kind with
      | .silent => .fall r m
      | .jump l => .goto l r m
      | .jnz l => (match op.uses with
        | [c] => if mc.isZero (r c) then .fall r m else .goto l r m
        | _ => .stuck)
      | .leave => (match mc.sem (core op) r m with
        | .exit x m' => .exit x m'
        | .next _ _ => .stuck)
      | .plain => (match mc.sem (core op) r m with
        | .next r' m' => .fall r' m'
        | .exit x m' => .exit x m') := by
  unfold act
  cases op.kind <;> rfl

theorem kills_eq (op : AOp) :
    kills op = match kclass op.kind with
      | .leave | .plain => op.defs ++ op.defConst
      | _ => [] := by
  unfold kills
  cases op.kind <;> rfl

theorem flowSucc_eq (P : List AOp) (i : Nat) (k : Kind) :
    flowSucc P i k = match kclass k with
      | .silent | .plain => [i + 1]
      | .jump l => (labelIndex P l).toList
      | .jnz l => (labelIndex P l).toList ++ [i + 1]
      | .leave => [] := by
  cases k <;> rfl

theorem act_plain_next {mc : Machine V M X} {op : AOp} {r r' : Reg → V} {m m' : M}
    (hc : kclass op.kind = .plain) (hs : mc.sem (core op) r m = .next r' m') :
    act mc op r m = .fall r' m' := by
  simp only [act_eq, hc, hs]

/-! ### where an op can go -/

theorem act_fall_flow {mc : Machine V M X} {P : List AOp} {op : AOp} {r r₂ : Reg → V} {m m₂ : M} (i : Nat)
    (h : act mc op r m = .fall r₂ m₂) : i + 1 ∈ flowSucc P i op.kind := by
  rw [act_eq] at h
  rw [flowSucc_eq]
  cases hc : kclass op.kind <;> simp only [hc] at h ⊢
  case silent | plain => exact List.mem_singleton_self _
  case jump => cases h
  case jnz => exact List.mem_append_right _ (List.mem_singleton_self _)
  case leave => split at h <;> cases h

theorem act_goto_flow {mc : Machine V M X} {P : List AOp} {op : AOp} {r r₂ : Reg → V} {m m₂ : M} {l t : Nat}
    (i : Nat) (h : act mc op r m = .goto l r₂ m₂) (hl : labelIndex P l = some t) :
    t ∈ flowSucc P i op.kind := by
  have ht : t ∈ (labelIndex P l).toList := by rw [hl]; exact List.mem_singleton_self t
  rw [act_eq] at h
  rw [flowSucc_eq]
  cases hc : kclass op.kind <;> simp only [hc] at h ⊢
  case silent => cases h
  case jump => cases h; exact ht
  case jnz =>
    split at h
    · split at h <;> cases h
      exact List.mem_append_left _ ht
    · cases h
  case leave | plain => split at h <;> cases h

/-! ### skippable ops -/

theorem isNopCand_plain {op : AOp} (h : isNopCand op = true) : kclass op.kind = .plain := by
  unfold isNopCand at h
  split at h
  next hk => rw [hk]; rfl
  next hk => rw [hk]; rfl
  next => cases h

theorem skipWrites_some {op : AOp} {w : List Reg} (h : skipWrites op = some w) :
    kclass op.kind = .plain ∧
      ((nopWf op = true ∧ w = op.defConst) ∨ (op.sideEffect = false ∧ w = op.defs ++ op.defConst)) := by
  unfold skipWrites at h
  split at h
  next hn =>
    cases h
    exact ⟨isNopCand_plain (Bool.and_eq_true_iff.1 hn).1, .inl ⟨hn, rfl⟩⟩
  next =>
    have hif : (if op.sideEffect = true then none else some (op.defs ++ op.defConst)) = some w →
        op.sideEffect = false ∧ w = op.defs ++ op.defConst := fun h =>
      have ⟨hs, hw⟩ := Option.ite_none_left_eq_some.1 h
      ⟨Bool.eq_false_iff.2 hs, (Option.some.inj hw).symm⟩
    split at h
    next hk => exact ⟨by rw [hk]; rfl, .inr (hif h)⟩
    next hk => exact ⟨by rw [hk]; rfl, .inr (hif h)⟩
    next => cases h

theorem skip_act {mc : Machine V M X} {amb : Reg → Bool} (hR : Respects mc amb) {op : AOp} {w : List Reg}
    (h : skipWrites op = some w) (r : Reg → V) (m : M) :
    ∃ r₂, act mc op r m = .fall r₂ m ∧ ∀ x, x ∉ w → r₂ x = r x := by
  obtain ⟨hc, ⟨hn, rfl⟩ | ⟨hse, rfl⟩⟩ := skipWrites_some h
  · obtain ⟨r₂, hs, hf⟩ := hR.nop (core op) r m hn
    exact ⟨r₂, act_plain_next hc hs, hf⟩
  · obtain ⟨r₂, hs⟩ := hR.pure (core op) r m hse
    exact ⟨r₂, act_plain_next hc hs, fun x hx => hR.frame (core op) r m r₂ m hs x
      (fun h => hx (List.mem_append_left _ h)) (fun h => hx (List.mem_append_right _ h)) (.inl hse)⟩

theorem act_noop {mc : Machine V M X} {amb : Reg → Bool} (hR : Respects mc amb) (r : Reg → V) (m : M) :
    ∃ r₃, mc.sem noopOp r m = .next r₃ m ∧ act mc noopOp r m = .fall r₃ m ∧
      ∀ x, x ∉ noopOp.defConst → r₃ x = r x := by
  obtain ⟨r₃, hs⟩ := hR.pure noopOp r m rfl
  exact ⟨r₃, hs, act_plain_next (op := noopOp) rfl hs,
    fun x hx => hR.frame noopOp r m r₃ m hs x List.not_mem_nil hx (.inl rfl)⟩

/-! ### two ops making the same move -/

def ActRel (F : (Reg → V) → (Reg → V) → Prop) (G : Nat → (Reg → V) → (Reg → V) → Prop)
    (a a' : Act V M X) : Prop :=
  match a with
  | .fall r m => ∃ r', a' = .fall r' m ∧ F r r'
  | .goto l r m => ∃ r', a' = .goto l r' m ∧ G l r r'
  | .exit x m => a' = .exit x m
  | .stuck => a' = .stuck

theorem ActRel.mono {F F' : (Reg → V) → (Reg → V) → Prop} {G G' : Nat → (Reg → V) → (Reg → V) → Prop}
    {a a' : Act V M X} (h : ActRel F G a a')
    (hF : ∀ r m r', a = .fall r m → F r r' → F' r r')
    (hG : ∀ l r m r', a = .goto l r m → G l r r' → G' l r r') : ActRel F' G' a a' := by
  cases a with
  | fall r m => exact h.imp fun r' h => ⟨h.1, hF r m r' rfl h.2⟩
  | goto l r m => exact h.imp fun r' h => ⟨h.1, hG l r m r' rfl h.2⟩
  | exit x m => exact h
  | stuck => exact h

theorem ActRel.same {F : (Reg → V) → (Reg → V) → Prop} {G : Nat → (Reg → V) → (Reg → V) → Prop}
    (a : Act V M X) (hF : ∀ r m, a = .fall r m → F r r) (hG : ∀ l r m, a = .goto l r m → G l r r) :
    ActRel F G a a := by
  cases a with
  | fall r m => exact ⟨r, rfl, hF r m rfl⟩
  | goto l r m => exact ⟨r, rfl, hG l r m rfl⟩
  | exit x m => exact rfl
  | stuck => exact rfl

/-! ### one op on two register files that agree on `S` -/

def AgreeOn (T : Reg → Prop) (r r' : Reg → V) : Prop := ∀ x, T x → r x = r' x

theorem sem_agree {mc : Machine V M X} {amb : Reg → Bool} (hR : Respects mc amb) (op : AOp)
    (S T : Reg → Prop) (r r' : Reg → V) (m : M)
    (huse : ∀ x ∈ op.uses, S x) (hamb : ∀ x, amb x = true → S x)
    (hT : ∀ x, T x → x ∈ op.defs ++ op.defConst ∨ S x) (hag : AgreeOn S r r') :
    (∃ r₂ r₂' m₂, mc.sem (core op) r m = .next r₂ m₂ ∧ mc.sem (core op) r' m = .next r₂' m₂ ∧
      AgreeOn T r₂ r₂') ∨
    ∃ x m₂, mc.sem (core op) r m = .exit x m₂ ∧ mc.sem (core op) r' m = .exit x m₂ := by
  have hrd := hR.reads (core op) r r' m (fun x hx => hag x (huse x hx))
    (fun _ x hx => hag x (hamb x hx))
  cases h1 : mc.sem (core op) r m with
  | next r₂ m₂ =>
    cases h2 : mc.sem (core op) r' m with
    | next r₂' m₂' =>
      rw [h1, h2] at hrd
      obtain ⟨rfl, hw⟩ := hrd
      refine .inl ⟨r₂, r₂', _, rfl, rfl, fun x hx => ?_⟩
      -- a register the op may write agrees by `reads`, any other by `frame` and `hag`
      by_cases hwx : x ∈ op.defs ∨ x ∈ op.defConst ∨ (op.sideEffect = true ∧ amb x = true)
      · exact hw x hwx
      · have hd : x ∉ op.defs := fun h => hwx (.inl h)
        have hc : x ∉ op.defConst := fun h => hwx (.inr (.inl h))
        have hse : op.sideEffect = false ∨ amb x = false :=
          (Decidable.not_and_iff_or_not.1 fun h => hwx (.inr (.inr h))).imp
            Bool.eq_false_iff.2 Bool.eq_false_iff.2
        have hS : S x := (hT x hx).resolve_left fun h => (List.mem_append.1 h).elim hd hc
        rw [hR.frame (core op) r m r₂ _ h1 x hd hc hse, hR.frame (core op) r' m r₂' _ h2 x hd hc hse]
        exact hag x hS
    | exit x' m₂' => rw [h1, h2] at hrd; exact hrd.elim
  | exit x m₂ =>
    cases h2 : mc.sem (core op) r' m with
    | next r₂' m₂' => rw [h1, h2] at hrd; exact hrd.elim
    | exit x' m₂' =>
      rw [h1, h2] at hrd
      obtain ⟨rfl, rfl⟩ := hrd
      exact .inr ⟨_, _, rfl, rfl⟩

theorem act_agree {mc : Machine V M X} {amb : Reg → Bool} (hR : Respects mc amb) (op : AOp)
    (S T : Reg → Prop) (r r' : Reg → V) (m : M)
    (huse : ∀ x ∈ op.uses, S x) (hamb : ∀ x, amb x = true → S x)
    (hT : ∀ x, T x → x ∈ kills op ∨ S x) (hag : AgreeOn S r r') :
    ActRel (AgreeOn T) (fun _ => AgreeOn T) (act mc op r m) (act mc op r' m) := by
  -- an op that kills nothing leaves the register files as they are, and `T ⊆ S`
  have hT' : kills op = [] → AgreeOn T r r' := fun hk x hx =>
    hag x ((hT x hx).resolve_left (hk ▸ List.not_mem_nil))
  rw [kills_eq] at hT hT'
  rw [act_eq, act_eq]
  cases hc : kclass op.kind <;> simp only [hc] at hT hT' ⊢
  case silent => exact ⟨r', rfl, hT' trivial⟩
  case jump l => exact ⟨r', rfl, hT' trivial⟩
  case jnz l =>
    cases hu : op.uses with
    | nil => rfl
    | cons c cs =>
      cases cs with
      | cons _ _ => rfl
      | nil =>
        show ActRel _ _ (if mc.isZero (r c) then _ else _) (if mc.isZero (r' c) then _ else _)
        rw [hag c (huse c (by rw [hu]; exact List.mem_singleton_self c))]
        split
        · exact ⟨r', rfl, hT' trivial⟩
        · exact ⟨r', rfl, hT' trivial⟩
  case leave =>
    rcases sem_agree hR op S T r r' m huse hamb hT hag with ⟨r₂, r₂', m₂, h1, h2, _⟩ | ⟨x, m₂, h1, h2⟩
    · rw [h1, h2]; rfl
    · rw [h1, h2]; rfl
  case plain =>
    rcases sem_agree hR op S T r r' m huse hamb hT hag with ⟨r₂, r₂', m₂, h1, h2, hag'⟩ | ⟨x, m₂, h1, h2⟩
    · rw [h1, h2]; exact ⟨r₂', rfl, hag'⟩
    · rw [h1, h2]; rfl

end SwayVerif.AsmOpt
