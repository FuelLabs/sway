import SwayVerif.Lemmas.LexerSub
/-! The main loop of `lex_commented` (model: `Model/Lexer.lean`). `Pre text s index` holds of what has been recorded
while the token starting at `index` is read: all of it is valid and lies before `index`. Every branch of the loop
body re-establishes it at the stream position it stops at (`Post`); `lexRaw_ok` and `lex_eq` read the result off. -/
namespace SwayVerif.Lexer

/-- Relation between consecutive tokens in `St.toks` (kept reversed: later tokens first). -/
def After (b a : Token) : Prop := a.stop ≤ b.start

structure Pre (text : List CC) (s : St) (index : Nat) : Prop where
  toks : ∀ t ∈ s.toks, SpanOK text t.start t.stop ∧ t.stop ≤ index
  sorted : s.toks.Pairwise After
  errs : ∀ e ∈ s.errs, SpanOK text e.start e.stop
  aux : ∀ a ∈ s.aux, SpanOK text a.1 a.2
  stack : ∀ od ∈ s.stack, Bd text od.1 ∧ Bd text (od.1 + 1) ∧ od.1 + 1 ≤ index
  fso : s.fso ≤ index
  bad : s.bad = false
  fuelOut : s.fuelOut = false

structure Inv (text : List CC) (s : St) : Prop where
  suf : Suf text s.pos s.rest
  pre : Pre text s s.pos

/-- What one iteration establishes when the stream after the first character is `(pos, rest)`. -/
structure Post (text : List CC) (pos : Nat) (rest : List CC) (s' : St) : Prop where
  inv : Inv text s'
  adv : Adv pos rest s'.pos s'.rest

structure RawOK (text : List CC) (r : Raw) : Prop where
  fuelOut : r.fuelOut = false
  bad : r.bad = false
  toks : ∀ t ∈ r.toks, SpanOK text t.start t.stop
  sorted : r.toks.Pairwise (fun a b => a.stop ≤ b.start)
  errs : ∀ e ∈ r.errs, SpanOK text e.start e.stop
  aux : ∀ a ∈ r.aux, SpanOK text a.1 a.2

variable {text : List CC}

/-! ## How `Pre` follows the updates of the state

One lemma per kind of update, each stated on `{ s with … }`, so that the `Pre` of a state the model writes as
one record update is a chain of them (nested single-field updates and the model's record agree by unfolding
projections). -/

theorem Pre.mono {s : St} {i j : Nat} (h : Pre text s i) (hij : i ≤ j) : Pre text s j :=
  ⟨fun t ht => ⟨(h.toks t ht).1, Nat.le_trans (h.toks t ht).2 hij⟩, h.sorted, h.errs, h.aux,
   fun od hod => ⟨(h.stack od hod).1, (h.stack od hod).2.1, Nat.le_trans (h.stack od hod).2.2 hij⟩,
   Nat.le_trans h.fso hij, h.bad, h.fuelOut⟩

theorem Pre.frame {s : St} {i : Nat} (h : Pre text s i) {pos : Nat} {rest seen : List CC} {fail : Bool} :
    Pre text { s with pos := pos, rest := rest, seen := seen, fail := fail } i :=
  ⟨h.toks, h.sorted, h.errs, h.aux, h.stack, h.fso, h.bad, h.fuelOut⟩

theorem Pre.pushTok {s : St} {i j a b : Nat} {k : TokKind} (h : Pre text s i)
    (hs : SpanOK text a b) (hlo : i ≤ a) (hhi : b ≤ j) (hij : i ≤ j) :
    Pre text { s with toks := ⟨k, a, b⟩ :: s.toks } j :=
  ⟨List.forall_mem_cons.2 ⟨⟨hs, hhi⟩, (h.mono hij).toks⟩,
   List.pairwise_cons.2 ⟨fun t ht => Nat.le_trans (h.toks t ht).2 hlo, h.sorted⟩,
   h.errs, h.aux, (h.mono hij).stack, (h.mono hij).fso, h.bad, h.fuelOut⟩

theorem Pre.pushErr {s : St} {i a b : Nat} {k : ErrKind} (h : Pre text s i) (hs : SpanOK text a b) :
    Pre text { s with errs := ⟨k, a, b⟩ :: s.errs } i :=
  ⟨h.toks, h.sorted, List.forall_mem_cons.2 ⟨hs, h.errs⟩, h.aux, h.stack, h.fso, h.bad, h.fuelOut⟩

theorem Pre.pushAux {s : St} {i a b : Nat} (h : Pre text s i) (hs : SpanOK text a b) :
    Pre text { s with aux := (a, b) :: s.aux } i :=
  ⟨h.toks, h.sorted, h.errs, List.forall_mem_cons.2 ⟨hs, h.aux⟩, h.stack, h.fso, h.bad, h.fuelOut⟩

theorem Pre.pushDelim {s : St} {i a : Nat} {d : Delim} (h : Pre text s i)
    (ha : Bd text a) (ha1 : Bd text (a + 1)) (hle : a + 1 ≤ i) : Pre text { s with stack := (a, d) :: s.stack } i :=
  ⟨h.toks, h.sorted, h.errs, h.aux, List.forall_mem_cons.2 ⟨⟨ha, ha1, hle⟩, h.stack⟩, h.fso, h.bad, h.fuelOut⟩

theorem Pre.subStack {s : St} {i : Nat} {st : List (Nat × Delim)} (h : Pre text s i)
    (hst : ∀ od ∈ st, od ∈ s.stack) : Pre text { s with stack := st } i :=
  ⟨h.toks, h.sorted, h.errs, h.aux, fun od hod => h.stack od (hst od hod), h.fso, h.bad, h.fuelOut⟩

theorem Pre.popDelim {s : St} {i : Nat} {od : Nat × Delim} {st : List (Nat × Delim)} (h : Pre text s i)
    (hs : s.stack = od :: st) : Pre text { s with stack := st } i :=
  h.subStack fun _ hx => hs ▸ .tail _ hx

theorem post_of {s' : St} {pos : Nat} {rest : List CC}
    (hs : Suf text pos rest) (hp : s'.pos = pos) (hr : s'.rest = rest) (hpre : Pre text s' pos) : Post text pos rest s' :=
  ⟨⟨by rw [hp, hr]; exact hs, by rw [hp]; exact hpre⟩, by rw [hp, hr]; exact Adv.refl _ _⟩

theorem Post.mono {pos p' : Nat} {rest r' : List CC} {s' : St}
    (a : Adv pos rest p' r') (h : Post text p' r' s') : Post text pos rest s' :=
  ⟨h.inv, a.trans h.adv⟩

/-! ## Sub-lexer results -/

theorem forall_mem_reverse_append {α : Type} {p : α → Prop} {l1 l2 : List α} (h1 : ∀ x ∈ l1, p x) (h2 : ∀ x ∈ l2, p x) :
    ∀ x ∈ l1.reverse ++ l2, p x :=
  List.forall_mem_append.2 ⟨fun x hx => h1 x (List.mem_reverse.1 hx), h2⟩

theorem absorb_post {s : St} {index lo fromPos : Nat} {fromRest : List CC} {r : Sub}
    (hpre : Pre text s index) (hsuf : Suf text fromPos fromRest) (hsub : SubOK text lo fromPos fromRest r)
    (hlo : index ≤ lo) (hfrom : index ≤ fromPos) :
    Post text fromPos fromRest (s.absorb fromPos fromRest r) := by
  have hm := hpre.mono (Nat.le_trans hfrom hsub.adv.le)
  refine ⟨⟨hsuf.adv hsub.adv, ?_, ?_, ?_, ?_, hm.stack, hm.fso, ?_, hpre.fuelOut⟩, hsub.adv⟩
  · exact forall_mem_reverse_append (fun t ht => ⟨(hsub.toks t ht).1, (hsub.toks t ht).2.2⟩) hm.toks
  · show (r.toks.reverse ++ s.toks).Pairwise After
    rw [List.pairwise_append, List.pairwise_reverse]
    -- an old token ends before `index ≤ lo`, a new one starts at or after `lo`
    exact ⟨hsub.sorted, hpre.sorted, fun b hb a ha =>
      Nat.le_trans (hpre.toks a ha).2 (Nat.le_trans hlo (hsub.toks b (List.mem_reverse.1 hb)).2.1)⟩
  · exact forall_mem_reverse_append hsub.errs hpre.errs
  · exact forall_mem_reverse_append hsub.aux hpre.aux
  · show (s.bad || r.bad) = false
    rw [hpre.bad, hsub.bad]; rfl

theorem absorbFuel_post {s : St} {index lo fromPos : Nat} {fromRest : List CC} {r : Sub}
    (hpre : Pre text s index) (hsuf : Suf text fromPos fromRest) (hsub : SubOK text lo fromPos fromRest r)
    (hlo : index ≤ lo) (hfrom : index ≤ fromPos) (hfo : r.fuelOut = false) :
    Post text fromPos fromRest (s.absorbFuel fromPos fromRest r) := by
  have h := absorb_post hpre hsuf hsub hlo hfrom
  have hp := h.inv.pre
  exact ⟨⟨h.inv.suf, hp.toks, hp.sorted, hp.errs, hp.aux, hp.stack, hp.fso, hp.bad,
    by show (s.fuelOut || r.fuelOut) = false; rw [hpre.fuelOut, hfo]; rfl⟩, h.adv⟩

/-! ## The branches of the loop body -/

theorem openDelim?_u8len {c : Char} {d : Delim} (h : openDelim? c = some d) : u8len c = 1 := by
  unfold openDelim? at h
  by_cases c1 : c = '('
  · subst c1; decide
  · rw [if_neg c1] at h
    by_cases c2 : c = '{'
    · subst c2; decide
    · rw [if_neg c2] at h
      by_cases c3 : c = '['
      · subst c3; decide
      · rw [if_neg c3] at h; simp at h

theorem stepOther_post {s : St} {index pos fuel : Nat} {x : CC} {rest : List CC}
    (hpre : Pre text s index) (hsuf : Suf text index (x :: rest)) (hpos : pos = index + u8len x.c)
    (hfuel : rest.length < fuel) :
    Post text pos rest (stepOther text (blen text) fuel s index x pos rest) := by
  subst hpos
  have h1 := hsuf.cons
  have hi := hsuf.bd
  have hle : index ≤ index + u8len x.c := Nat.le_add_right _ _
  -- `x` itself as a span: the token (or the error) of the one-character branches
  have hx : SpanOK text index (index + u8len x.c) := .of_suf hi h1 hle
  unfold stepOther
  cases hod : openDelim? x.c with
  | some d =>
    have hb1 : Bd text (index + 1) := by rw [← openDelim?_u8len hod]; exact h1.bd
    have hle1 : index + 1 ≤ index + u8len x.c := Nat.add_le_add_left (u8len_pos x.c) _
    exact post_of h1 rfl rfl
      ((hpre.pushTok ⟨hi, hb1, Nat.le_succ _⟩ (Nat.le_refl _) hle1 hle).pushDelim hi hb1 hle1).frame
  | none =>
    cases hcd : closeDelim? x.c with
    | some cd =>
      cases hst : s.stack with
      | nil => exact post_of h1 rfl rfl (((hpre.mono hle).pushErr hx).subStack (List.forall_mem_nil _)).frame
      | cons top st =>
        obtain ⟨openIndex, od⟩ := top
        have hop := hpre.stack (openIndex, od) (hst ▸ .head _)
        have hp := (((hpre.pushTok (k := .close od) hx (Nat.le_refl _) (Nat.le_refl _) hle).pushAux
          ⟨hop.2.1, hi, hop.2.2⟩).pushAux ⟨hop.1, h1.bd, Nat.le_of_succ_le (Nat.le_trans hop.2.2 hle)⟩).popDelim hst
        simp only [peekPos_eq h1]
        split
        · exact post_of h1 rfl rfl (hp.pushErr hx).frame
        · exact post_of h1 rfl rfl hp.frame
    | none =>
      simp only []
      refine iteInduction (fun _ => ?_) fun _ => ?_
      · have := lexString_spec (text := text) (index := index) (fuel := fuel) h1 hi (Nat.lt_add_of_pos_right (u8len_pos _)) hfuel
        exact absorbFuel_post hpre h1 this.1 (Nat.le_refl _) hle this.2
      refine iteInduction
        (fun _ => absorb_post hpre h1 (lexChar_spec h1 hi (Nat.lt_add_of_pos_right (u8len_pos _))) (Nat.le_refl _) hle) fun _ => ?_
      cases hdig : toDigit x.c 10 with
      | some d => exact absorb_post hpre h1 (lexInt_spec d h1 hi hle) (Nat.le_refl _) hle
      | none =>
        simp only [peekPos_eq h1]
        refine iteInduction (fun _ => ?_) fun _ => ?_
        · exact post_of h1 rfl rfl (hpre.pushTok hx (Nat.le_refl _) (Nat.le_refl _) hle).frame
        · exact post_of h1 rfl rfl ((hpre.mono hle).pushErr hx).frame

theorem identTail_post {s : St} {i0 index pos fuel : Nat} {x : CC} {rest : List CC} (raw : Bool)
    (hpre : Pre text s i0) (hi0 : i0 ≤ index) (hi : Bd text index) (hlt : index < pos) (hsuf : Suf text pos rest)
    (hfuel : rest.length < fuel) (hund : x.c = '_' → Suf text index (x :: rest) ∧ pos = index + u8len x.c) :
    Post text pos rest (identTail text (blen text) fuel s raw index x pos rest) := by
  unfold identTail
  refine iteInduction (fun _ => ?_) fun hc => ?_
  · have sk := skipWhile_adv (fun c => c.xc) rest pos
    generalize skipWhile (fun c => c.xc) rest pos = res at sk
    obtain ⟨p2, r2⟩ := res
    have h2 := hsuf.adv sk
    have hle2 : index ≤ p2 := Nat.le_trans (Nat.le_of_lt hlt) sk.le
    simp only [peekPos_eq h2]
    exact ⟨⟨h2, (hpre.pushTok (.of_suf hi h2 hle2) hi0 (Nat.le_refl _) (Nat.le_trans hi0 hle2)).frame⟩, sk⟩
  · have hx : x.c = '_' := Decidable.byContradiction fun hx => hc (by simp [notSingleUnderscore, hx])
    obtain ⟨hs, hp⟩ := hund hx
    exact stepOther_post (hpre.mono hi0) hs hp hfuel

theorem isRawPrefix_r {x : CC} {rest : List CC} (h : isRawPrefix x rest = true) : x.c ≠ '_' := by
  unfold isRawPrefix at h
  simp only [Bool.and_eq_true, decide_eq_true_eq] at h
  rw [h.1]; decide

theorem stepIdent_post {s : St} {index pos fuel : Nat} {x : CC} {rest : List CC}
    (hpre : Pre text s index) (hsuf : Suf text index (x :: rest)) (hpos : pos = index + u8len x.c)
    (hfuel : rest.length < fuel) :
    Post text pos rest (stepIdent text (blen text) fuel s index x pos rest) := by
  have h1 : Suf text pos rest := hpos ▸ hsuf.cons
  have hi := hsuf.bd
  have hlt : index < pos := hpos ▸ Nat.lt_add_of_pos_right (u8len_pos x.c)
  unfold stepIdent
  refine iteInduction (fun _ => ?_) fun _ => stepOther_post hpre hsuf hpos hfuel
  refine iteInduction (fun hraw => ?_) fun _ =>
    identTail_post false hpre (Nat.le_refl _) hi hlt h1 hfuel (fun _ => ⟨hsuf, hpos⟩)
  -- `r#`: the identifier proper starts after the `#`; `x` is an `r`, so the `_` clause of `identTail_post` is void
  have hnu := isRawPrefix_r hraw
  cases rest with
  | nil => exact identTail_post true hpre (Nat.le_refl _) hi hlt h1 hfuel (fun e => absurd e hnu)
  | cons h r1 =>
    have h2 := h1.cons
    have hlt2 : index < pos + u8len h.c := Nat.lt_add_right _ hlt
    cases r1 with
    | nil =>
      exact .mono (Adv.cons _ _ _)
        (identTail_post true hpre.frame (Nat.le_refl _) hi hlt2 h2 (Nat.zero_lt_of_lt hfuel) (fun e => absurd e hnu))
    | cons y r2 =>
      have h3 := h2.cons
      refine .mono (Adv.cons2 _ _ _ _) (iteInduction (fun _ => ?_) fun _ => ?_)
      · exact identTail_post true hpre.frame (Nat.le_of_lt hlt2) h2.bd (Nat.lt_add_of_pos_right (u8len_pos y.c)) h3
          (Nat.lt_of_succ_lt (Nat.lt_of_succ_lt hfuel)) (fun _ => ⟨h2, rfl⟩)
      · exact post_of h3 rfl rfl
          ((hpre.mono (Nat.le_of_lt (Nat.lt_add_right _ hlt2))).pushErr (.of_suf h2.bd h3 (Nat.le_add_right _ _))).frame

theorem stepWs_post {s : St} {x : CC} {rest : List CC}
    (hinv : Inv text s) (hr : s.rest = x :: rest) :
    Post text (s.pos + u8len x.c) rest (stepWs s x rest) := by
  have hs : Suf text s.pos (x :: rest) := hr ▸ hinv.suf
  have hm := hinv.pre.mono (j := s.pos + u8len x.c) (Nat.le_add_right _ _)
  have hfso := hinv.pre.fso
  refine post_of hs.cons rfl rfl ⟨hm.toks, hm.sorted, hm.errs, hm.aux, hm.stack, ?_, ?_, hm.fuelOut⟩
  · exact iteInduction (motive := (· ≤ s.pos + u8len x.c)) (fun _ => Nat.add_le_add_right hfso _) fun _ => hm.fso
  · show (s.bad || decide (s.pos < s.fso)) = false
    rw [hinv.pre.bad, decide_eq_false (Nat.not_lt.2 hfso)]; rfl

theorem searchEnd_ok {s : St} {index : Nat} (hpre : Pre text s index) (hi : Bd text index) :
    SpanOK text (searchEnd s.toks) index := by
  have h0 : SpanOK text 0 index := ⟨Bd.zero _, hi, Nat.zero_le _⟩
  unfold searchEnd
  cases ht : s.toks with
  | nil => exact h0
  | cons t ts =>
    have := hpre.toks t (ht ▸ .head _)
    simp only []
    split
    · exact h0
    · exact h0
    · exact ⟨this.1.2.1, hi, this.2⟩

theorem stepLineComment_post {s : St} {x y : CC} {rest : List CC}
    (hinv : Inv text s) (hr : s.rest = x :: y :: rest) (hx : x.c = '/') (hy : y.c = '/') :
    Post text (s.pos + u8len x.c) (y :: rest) (stepLineComment (blen text) s x (y :: rest)) := by
  have hx1 : u8len x.c = 1 := by rw [hx]; exact u8len_slash
  have hs : Suf text s.pos (x :: y :: rest) := hr ▸ hinv.suf
  exact absorb_post (index := s.pos) (lo := s.pos) (hinv.pre.pushAux (searchEnd_ok hinv.pre hs.bd)).frame hs.cons
    (lexLineComment_spec (lineCommentKind s) hs.cons hs.bd (by rw [hx1]) hy) (Nat.le_refl _) (Nat.le_add_right _ _)

theorem stepBlockComment_post {s : St} {x y : CC} {rest : List CC}
    (hinv : Inv text s) (hr : s.rest = x :: y :: rest) :
    Post text (s.pos + u8len x.c) (y :: rest) (stepBlockComment text (blen text) s x (y :: rest)) := by
  have hs : Suf text s.pos (x :: y :: rest) := hr ▸ hinv.suf
  exact absorb_post (index := s.pos) (lo := s.pos) hinv.pre.frame hs.cons
    (lexBlockComment_spec hs.cons hs.bd (Nat.lt_add_of_pos_right (u8len_pos _))) (Nat.le_refl _) (Nat.le_add_right _ _)

theorem stepToken_post {s : St} {x : CC} {rest : List CC} {fuel : Nat}
    (hinv : Inv text s) (hr : s.rest = x :: rest) (hfuel : rest.length < fuel) :
    Post text (s.pos + u8len x.c) rest (stepToken text (blen text) fuel s x rest) :=
  stepIdent_post hinv.pre.frame (hr ▸ hinv.suf) rfl hfuel

theorem step_post {s : St} {x : CC} {rest : List CC} {fuel : Nat}
    (hinv : Inv text s) (hr : s.rest = x :: rest) (hfuel : rest.length < fuel) :
    Post text (s.pos + u8len x.c) rest (step text (blen text) fuel s x rest) := by
  unfold step
  refine iteInduction (fun _ => stepWs_post hinv hr) fun _ => ?_
  refine iteInduction (fun c2 => ?_) fun _ => stepToken_post hinv hr hfuel
  cases rest with
  | nil => exact stepToken_post hinv hr hfuel
  | cons y r =>
    refine iteInduction (fun c3 => stepLineComment_post hinv hr c2 c3) fun _ => ?_
    exact iteInduction (fun _ => stepBlockComment_post hinv hr) fun _ => stepToken_post hinv hr hfuel

/-- `Inv` includes `fuelOut = false`: with `rest.length < fuel` the loop does not run out of fuel. -/
theorem mainLoop_inv (fuel : Nat) (s : St) (hinv : Inv text s) (hfuel : s.rest.length < fuel) :
    Inv text (mainLoop text (blen text) fuel s) := by
  induction fuel generalizing s with
  | zero => omega
  | succ fuel ih =>
    unfold mainLoop
    cases hr : s.rest with
    | nil => exact hinv
    | cons x r =>
      rw [hr, List.length_cons] at hfuel
      have hp := step_post (fuel := fuel) hinv hr (Nat.lt_of_succ_lt_succ hfuel)
      exact iteInduction (fun _ => hp.inv) fun _ =>
        ih _ hp.inv (Nat.lt_of_le_of_lt hp.adv.length_le (Nat.lt_of_succ_lt_succ hfuel))

theorem closeAll_pre (stk : List (Nat × Delim)) (s : St)
    (hpre : Pre text s (blen text)) (hs : s.stack = stk) :
    Pre text (closeAll (blen text) stk s) (blen text) := by
  induction stk generalizing s with
  | nil => exact hpre
  | cons top st ih =>
    obtain ⟨openIndex, d⟩ := top
    have hop := hpre.stack (openIndex, d) (hs ▸ .head _)
    have hl := Nat.le_refl (blen text)
    exact ih _ (((((hpre.pushTok (.to_len (Bd.len _)) hl hl hl).pushErr ⟨hop.1, hop.2.1, Nat.le_succ _⟩).pushAux
      ⟨hop.2.1, Bd.len _, hop.2.2⟩).pushAux ⟨hop.1, Bd.len _, Nat.le_of_succ_le hop.2.2⟩).popDelim hs) rfl

/-! ## The whole lexer -/

theorem pre_rawOK {s : St} {i : Nat} (hpre : Pre text s i) (extra : List (Nat × Nat))
    (hextra : ∀ a ∈ extra, SpanOK text a.1 a.2) (fail : Bool) :
    RawOK text { toks := s.toks.reverse, errs := s.errs.reverse, aux := (extra ++ s.aux).reverse, fail := fail, bad := s.bad, fuelOut := s.fuelOut } :=
  ⟨hpre.fuelOut, hpre.bad, fun t ht => (hpre.toks t (List.mem_reverse.1 ht)).1, List.pairwise_reverse.2 hpre.sorted,
   fun e he => hpre.errs e (List.mem_reverse.1 he),
   fun a ha => List.forall_mem_append.2 ⟨hextra, hpre.aux⟩ a (List.mem_reverse.1 ha)⟩

theorem lexRaw_ok (text : List CC) : RawOK text (lexRaw text) := by
  have hinit : Inv text { pos := 0, rest := text } :=
    ⟨Suf.init text, List.forall_mem_nil _, .nil, List.forall_mem_nil _, List.forall_mem_nil _, List.forall_mem_nil _,
      Nat.le_refl _, rfl, rfl⟩
  have hinv := mainLoop_inv (text := text) (text.length + 1) { pos := 0, rest := text } hinit (Nat.lt_succ_self _)
  unfold lexRaw
  simp only []
  generalize mainLoop text (blen text) (text.length + 1) { pos := 0, rest := text } = s at hinv
  refine iteInduction (fun _ => pre_rawOK hinv.pre [] (List.forall_mem_nil _) s.fail) fun _ => ?_
  · have hc := closeAll_pre s.stack s (hinv.pre.mono hinv.suf.le) rfl
    have := pre_rawOK hc [(0, blen text)] (aux_one (.to_len (Bd.zero _))) false
    rw [hc.bad, hc.fuelOut] at this
    exact this

theorem RawOK.panics_eq {r : Raw} (ok : RawOK text r) : r.panics text = false := by
  unfold Raw.panics
  simp only [Bool.or_eq_false_iff, List.any_eq_false, Bool.not_eq_true', Bool.not_eq_false]
  exact ⟨⟨⟨ok.bad, fun t ht => (validSpan_iff _ _ _).2 (ok.toks t ht)⟩, fun e he => (validSpan_iff _ _ _).2 (ok.errs e he)⟩,
    fun a ha => (validSpan_iff _ _ _).2 (ok.aux a ha)⟩

/-- `lex` never takes its `unsupported` and `panic` branches. -/
theorem lex_eq (text : List CC) :
    lex text = if (lexRaw text).fail then .fail (lexRaw text).errs else .ok (lexRaw text).toks (lexRaw text).errs := by
  unfold lex
  simp only [(lexRaw_ok text).fuelOut, (lexRaw_ok text).panics_eq, Bool.false_eq_true, ↓reduceIte]

end SwayVerif.Lexer
