import SwayVerif.Lemmas.Usefulness
/-! Correctness of `U` (= `is_useful`) on well-typed matrices. `Good` says what one call owes: no internal
error, witnesses exactly when `q` is useful, and a witness stack that covers the leading wildcards of `q`
(the loop over Σ splits that many entries off again). Each branch of `Ustep` is `Good` when the recursive
calls are (`stepCtor_correct`, `stepOr_correct`, `stepWild_correct`), every recursive call lowers `mu`
(`Ustep_correct`), and `U_correct` follows by induction on the fuel. -/
namespace SwayVerif.Usefulness

def leadWilds : Row → Nat
  | .wild :: qs => leadWilds qs + 1
  | _ => 0

theorem leadWilds_wilds_append (a : Nat) (qs : Row) : leadWilds (wilds a ++ qs) = a + leadWilds qs := by
  induction a with
  | zero => simp [wilds]
  | succ a ih =>
    simp only [wilds] at ih
    simp [wilds, List.replicate_succ, leadWilds, ih]; omega

theorem leadWilds_le_length : ∀ (q : Row), leadWilds q ≤ q.length
  | [] => Nat.le_refl _
  | .wild :: qs => Nat.succ_le_succ (leadWilds_le_length qs)
  | .bool _ :: _ | .u8 _ _ :: _ | .num _ _ :: _ | .enum _ _ _ :: _ | .tuple _ :: _ | .strct _ _ :: _
  | .or _ :: _ => Nat.zero_le _

def Good (ts : List Ty) (P : Matrix) (q : Row) (res : Option Report) : Prop :=
  ∃ r, res = some r ∧ (r.has = true ↔ Useful ts P q) ∧ ∀ w, r = .wit w → leadWilds q ≤ w.length

theorem Report.join_noWit (r : Report) : r.join .noWit = r := by cases r <;> rfl

theorem Report.join_has (a b : Report) : (a.join b).has = (a.has || b.has) := by
  cases a <;> cases b <;> rfl

theorem joinAll_single (f : Row → Option Report) (r : Row) : joinAll f [r] = f r := by
  simp only [joinAll]
  cases f r with
  | none => rfl
  | some a => simp [Report.join_noWit]

/-! ## `is_useful_constructed` -/

theorem leadWilds_ctor {q1 : Pat} {c : Ctor} (qs : Row) (hd : q1.ctor? = some c) : leadWilds (q1 :: qs) = 0 := by
  cases q1 <;> cases hd <;> rfl

theorem specialize_single {c : Ctor} {ts' : List Ty} {p : Pat} {qs args : Row}
    (hp : ∀ w, specPat c w p qs = some [args ++ qs]) (hargs : args.length = c.arity)
    (hqs : patsHaveTy qs ts' = true) :
    specialize c [p :: qs] (ts'.length + 1) = some [args ++ qs] := by
  unfold specialize
  simp only [specRows, hp, bindRows, List.append_nil, Option.bind_some]
  apply checkShape_ok
  intro row hr
  simp at hr; subst hr
  simp [hargs, patsHaveTy_length hqs]

theorem useful_cons_ctor {c : Ctor} {t : Ty} {ts' : List Ty} {P : Matrix} {q1 : Pat} {qs : Row}
    (hq1 : q1.hasTy t = true) (hd : q1.ctor? = some c) :
    Useful (t :: ts') P (q1 :: qs) ↔ UsefulAt t ts' P q1.args qs c := by
  rw [useful_cons]
  constructor
  · rintro ⟨v, vs, hv, hvs, hm, hmq, hun⟩
    obtain ⟨c', vargs, hdec, _, hargs⟩ := decomp_of_hasTy hv
    rw [matches_ctor hq1 hd hdec hargs, Bool.and_eq_true, decide_eq_true_eq] at hm
    obtain ⟨rfl, hma⟩ := hm
    exact ⟨v, vargs, vs, hv, hdec, hargs, hvs, hma, hmq, hun⟩
  · rintro ⟨v, vargs, vs, hv, hdec, hargs, hvs, hma, hmq, hun⟩
    exact ⟨v, vs, hv, hvs, by rw [matches_ctor hq1 hd hdec hargs, hma, decide_eq_true rfl]; rfl, hmq, hun⟩

theorem stepCtor_correct (u : Matrix → Row → Option Report) {c : Ctor} {t : Ty} {ts' : List Ty}
    {P : Matrix} {q1 : Pat} {qs : Row} (hP : rowsHaveTy P (t :: ts'))
    (hq : patsHaveTy (q1 :: qs) (t :: ts') = true) (hd : q1.ctor? = some c)
    (ih : ∀ S, rowsHaveTy S (t.argTys c ++ ts') →
      Good (t.argTys c ++ ts') S (q1.args ++ qs) (u S (q1.args ++ qs))) :
    Good (t :: ts') P (q1 :: qs) (stepCtor u P (q1 :: qs) c) := by
  simp only [patsHaveTy, Bool.and_eq_true] at hq
  obtain ⟨hc, hargs⟩ := ctor_of_hasTy hq.1 hd
  obtain ⟨S, hS, hST, huse⟩ := specialize_spec c t ts' hc P hP
  have hlen : (q1 :: qs).length = ts'.length + 1 := by simp [patsHaveTy_length hq.2]
  have hq1 : specialize c [q1 :: qs] (ts'.length + 1) = some [q1.args ++ qs] :=
    specialize_single (fun _ => by rw [specPat_ctor qs hd, if_pos ((same_iff hc hc).mpr rfl)])
      (by rw [patsHaveTy_length hargs, argTys_length hc]) hq.2
  obtain ⟨r, hr, hiff, _⟩ := ih S hST
  refine ⟨r, ?_, ?_, ?_⟩
  · simp only [stepCtor, hlen, hS, hq1, joinAll_single, hr]
  · rw [hiff, huse _ _ hargs, useful_cons_ctor hq.1 hd]
  · intro w _; simp [leadWilds_ctor qs hd]

/-! ## `is_useful_or` -/

/-- Usefulness of the alternatives one after the other, each w.r.t. the matrix extended by the earlier ones. -/
def OrUseful (ts : List Ty) (qs : Row) : Matrix → List Pat → Prop
  | _, [] => False
  | P, a :: alts => Useful ts P (a :: qs) ∨ OrUseful ts qs (P ++ [a :: qs]) alts

theorem orUseful_iff (t : Ty) (ts' : List Ty) (qs : Row) : ∀ (alts : List Pat) (P : Matrix),
    OrUseful (t :: ts') qs P alts ↔ Useful (t :: ts') P (.or alts :: qs)
  | [], P => by
    rw [useful_cons]
    simp only [OrUseful, false_iff]
    rintro ⟨v, vs, -, -, hm, -⟩
    simp [Pat.matches, matchesAny] at hm
  | a :: alts, P => by
    have hor : ∀ v, (Pat.or (a :: alts)).matches v = (a.matches v || (Pat.or alts).matches v) :=
      fun v => by simp only [Pat.matches, matchesAny]
    simp only [OrUseful]
    rw [orUseful_iff t ts' qs alts (P ++ [a :: qs]), useful_cons, useful_cons, useful_cons]
    constructor
    · rintro (⟨v, vs, hv, hvs, hm, hmq, hun⟩ | ⟨v, vs, hv, hvs, hm, hmq, hun⟩)
      · exact ⟨v, vs, hv, hvs, by rw [hor, hm]; rfl, hmq, hun⟩
      · exact ⟨v, vs, hv, hvs, by rw [hor, hm, Bool.or_true], hmq, fun r hr => hun r (List.mem_append_left _ hr)⟩
    · rintro ⟨v, vs, hv, hvs, hm, hmq, hun⟩
      by_cases ha : a.matches v = true
      · exact Or.inl ⟨v, vs, hv, hvs, ha, hmq, hun⟩
      · -- the row `a :: qs` added to the matrix does not cover `v :: vs`
        rw [hor, Bool.or_eq_true] at hm
        refine Or.inr ⟨v, vs, hv, hvs, hm.resolve_left ha, hmq, fun r hr => ?_⟩
        rcases List.mem_append.mp hr with h | h
        · exact hun r h
        · rw [List.mem_singleton.mp h, matchesL, Bool.eq_false_iff.mpr ha]; rfl

theorem orLoop_correct (u : Matrix → Row → Option Report) (ts : List Ty) (qs : Row) :
    ∀ (alts : List Pat) (P : Matrix) (acc : Report), rowsHaveTy P ts →
      (∀ a ∈ alts, patsHaveTy (a :: qs) ts = true) →
      (∀ a ∈ alts, ∀ P', rowsHaveTy P' ts → Good ts P' (a :: qs) (u P' (a :: qs))) →
      ∃ r, orLoop u qs alts P acc = some r ∧ (r.has = true ↔ acc.has = true ∨ OrUseful ts qs P alts)
  | [] => fun _ acc _ _ _ => ⟨acc, rfl, by simp [OrUseful]⟩
  | a :: alts => fun P acc hP hq ih => by
    obtain ⟨wr, hwr, hiff, _⟩ := ih a (by simp) P hP
    have hP' : rowsHaveTy (P ++ [a :: qs]) ts := by
      intro r hr
      rcases List.mem_append.mp hr with h | h
      · exact hP r h
      · simp at h; subst h; exact hq a (by simp)
    obtain ⟨r, hr, hriff⟩ := orLoop_correct u ts qs alts (P ++ [a :: qs]) (acc.join wr) hP'
      (fun b hb => hq b (by simp [hb])) (fun b hb => ih b (by simp [hb]))
    refine ⟨r, by simp [orLoop, hwr, hr], ?_⟩
    rw [hriff, Report.join_has, Bool.or_eq_true, hiff, OrUseful, or_assoc]

theorem stepOr_correct (u : Matrix → Row → Option Report) {t : Ty} {ts' : List Ty} {P : Matrix}
    {alts : List Pat} {qs : Row} (hP : rowsHaveTy P (t :: ts'))
    (hq : ∀ a ∈ alts, patsHaveTy (a :: qs) (t :: ts') = true)
    (ih : ∀ a ∈ alts, ∀ P', rowsHaveTy P' (t :: ts') → Good (t :: ts') P' (a :: qs) (u P' (a :: qs))) :
    Good (t :: ts') P (.or alts :: qs) (orLoop u qs alts P .noWit) := by
  obtain ⟨r, hr, hiff⟩ := orLoop_correct u (t :: ts') qs alts P .noWit hP hq ih
  refine ⟨r, hr, ?_, by intro w _; simp [leadWilds]⟩
  rw [hiff, orUseful_iff]
  simp [Report.has]

/-! ## `is_useful_wildcard` -/

theorem useful_wild_iff {t : Ty} {ts' : List Ty} {P : Matrix} {qs : Row} :
    Useful (t :: ts') P (.wild :: qs) ↔ ∃ c, t.isCtor c = true ∧ UsefulAt t ts' P (wilds c.arity) qs c := by
  rw [useful_cons]
  constructor
  · rintro ⟨v, vs, hv, hvs, -, hmq, hun⟩
    obtain ⟨c, vargs, hdec, hc, hargs⟩ := decomp_of_hasTy hv
    exact ⟨c, hc, v, vargs, vs, hv, hdec, hargs, hvs, matchesL_wilds_arity hc hargs, hmq, hun⟩
  · rintro ⟨c, -, v, vargs, vs, hv, -, -, hvs, -, hmq, hun⟩
    exact ⟨v, vs, hv, hvs, rfl, hmq, hun⟩

theorem apply_some (c : Ctor) (args : List Pat) (h : args.length = c.arity) : ∃ p, c.apply args = some p := by
  have hne : ¬ (args.length != c.arity) = true := by rw [h, bne_self_eq_false]; exact Bool.false_ne_true
  unfold Ctor.apply
  rw [if_neg hne]
  cases c with
  | enum n k =>
    match args, h with
    | [p], _ => exact ⟨_, rfl⟩
  | bool | u8 | num | tuple | strct => exact ⟨_, rfl⟩

theorem splitLeading_some (c : Ctor) (w : List Pat) (h : c.arity ≤ w.length) :
    ∃ p, splitLeading c w = some (p, w.drop c.arity) := by
  obtain ⟨p, hp⟩ := apply_some c (w.take c.arity) (by simp [List.length_take]; omega)
  refine ⟨p, ?_⟩
  unfold splitLeading
  have : ¬ c.arity > w.length := by omega
  simp [this, hp]

/-- One round of the loop over Σ: the report of the specialised call, which covers the `c.arity`
argument columns and `n` more, is split and joined to the state. -/
theorem loopStep_spec (c : Ctor) (st : LoopSt) (wr : Report) (n : Nat)
    (hinv : ∀ w, st.1 = .wit w → n ≤ w.length) (hlw : ∀ w, wr = .wit w → c.arity + n ≤ w.length) :
    ∃ st1, loopStep c st wr = some st1 ∧ st1.1.has = (st.1.has || wr.has) ∧
      ∀ w, st1.1 = .wit w → n ≤ w.length := by
  cases wr with
  | noWit => exact ⟨st, by simp only [loopStep], (Bool.or_false _).symm, hinv⟩
  | wit w =>
    have hw := hlw w rfl
    obtain ⟨p, hp⟩ := splitLeading_some c w (by omega)
    have hdrop : n ≤ (w.drop c.arity).length := by rw [List.length_drop]; omega
    obtain ⟨r0, pats⟩ := st
    cases r0 with
    | noWit =>
      refine ⟨(.wit (w.drop c.arity), if pats.contains p then pats else pats ++ [p]), by simp only [loopStep, hp, Option.map_some], rfl, ?_⟩
      intro w' hw'; cases hw'; exact hdrop
    | wit acc =>
      refine ⟨(.wit (acc ++ w.drop c.arity), if pats.contains p then pats else pats ++ [p]),
        by simp only [loopStep, hp, Option.map_some], rfl, ?_⟩
      intro w' hw'; cases hw'; rw [List.length_append]; omega

theorem sigLoop_correct (u : Matrix → Row → Option Report) {t : Ty} {ts' : List Ty} {P : Matrix} {qs : Row}
    (hP : rowsHaveTy P (t :: ts')) (hqs : patsHaveTy qs ts' = true) :
    ∀ (cs : List Ctor) (st : LoopSt), (∀ c ∈ cs, t.isCtor c = true) →
      (∀ c ∈ cs, ∀ S, rowsHaveTy S (t.argTys c ++ ts') →
        Good (t.argTys c ++ ts') S (wilds c.arity ++ qs) (u S (wilds c.arity ++ qs))) →
      (∀ w, st.1 = .wit w → leadWilds qs ≤ w.length) →
      ∃ st', sigLoop u P (.wild :: qs) cs st = some st' ∧
        (st'.1.has = true ↔ st.1.has = true ∨ ∃ c ∈ cs, UsefulAt t ts' P (wilds c.arity) qs c) ∧
        (∀ w, st'.1 = .wit w → leadWilds qs ≤ w.length)
  | [] => fun st _ _ hinv => ⟨st, rfl, by simp, hinv⟩
  | c :: cs => fun st hcs ih hinv => by
    have hc := hcs c List.mem_cons_self
    obtain ⟨S, hS, hST, huse⟩ := specialize_spec c t ts' hc P hP
    have hlen : (Pat.wild :: qs).length = ts'.length + 1 := by rw [List.length_cons, patsHaveTy_length hqs]
    obtain ⟨wr, hwr, hiff, hlw⟩ := ih c List.mem_cons_self S hST
    rw [huse _ _ (patsHaveTy_wilds_arity hc)] at hiff
    obtain ⟨st1, hst1, hhas1, hinv1⟩ := loopStep_spec c st wr (leadWilds qs) hinv
      (fun w hw => by rw [← leadWilds_wilds_append]; exact hlw w hw)
    obtain ⟨st', hst', hiff', hinv'⟩ := sigLoop_correct u hP hqs cs st1
      (fun d hd => hcs d (List.mem_cons_of_mem _ hd)) (fun d hd => ih d (List.mem_cons_of_mem _ hd)) hinv1
    refine ⟨st', ?_, ?_, hinv'⟩
    · simp only [sigLoop, hlen, hS, specialize_single (p := .wild) (fun _ => rfl) (wilds_length _) hqs, joinAll_single, hwr, hst1, hst']
    · rw [hiff', hhas1, Bool.or_eq_true, hiff]
      simp only [List.mem_cons, exists_eq_or_imp, or_assoc]

theorem sigma_spec (t : Ty) (ts' : List Ty) (P : Matrix) (hP : rowsHaveTy P (t :: ts')) :
    ∃ hs, headCtors P = some hs ∧ sigma P = some (dedup hs) ∧ (∀ c ∈ dedup hs, t.isCtor c = true) := by
  obtain ⟨hs, h1, h2⟩ := headCtors_spec t ts' P hP
  exact ⟨hs, h1, by simp [sigma, h1], fun c hc => h2 c (mem_dedup.mp hc)⟩

theorem stepWild_correct (u : Matrix → Row → Option Report) {t : Ty} {ts' : List Ty}
    {P : Matrix} {qs : Row} (ht : t.inhab = true) (hP : rowsHaveTy P (t :: ts'))
    (hqs : patsHaveTy qs ts' = true)
    (ihS : ∀ c, t.isCtor c = true → ∀ S, rowsHaveTy S (t.argTys c ++ ts') →
      Good (t.argTys c ++ ts') S (wilds c.arity ++ qs) (u S (wilds c.arity ++ qs)))
    (ihD : ∀ D, rowsHaveTy D ts' → Good ts' D qs (u D qs)) :
    Good (t :: ts') P (.wild :: qs) (stepWild u P (.wild :: qs) qs) := by
  obtain ⟨hs, hhs, hsig, hsigT⟩ := sigma_spec t ts' P hP
  obtain ⟨b, hb, hbiff⟩ := isComplete_spec t ht (dedup hs) hsigT
  have hlen : (Pat.wild :: qs).length = ts'.length + 1 := by rw [List.length_cons, patsHaveTy_length hqs]
  cases b with
  | true =>
    have hall : ∀ c, t.isCtor c = true → c ∈ dedup hs := hbiff.mp rfl
    obtain ⟨st', hst', hiff, hinv⟩ := sigLoop_correct u hP hqs (dedup hs) (.noWit, []) hsigT
      (fun c hc => ihS c (hsigT c hc)) (fun w hw => nomatch hw)
    have huse : Useful (t :: ts') P (.wild :: qs) ↔ st'.1.has = true := by
      rw [useful_wild_iff, hiff]
      simp only [Report.has, Bool.false_eq_true, false_or]
      exact ⟨fun ⟨c, hc, h⟩ => ⟨c, hall c hc, h⟩, fun ⟨c, hc, h⟩ => ⟨c, hsigT c hc, h⟩⟩
    obtain ⟨r', pats⟩ := st'
    cases r' with
    | noWit => exact ⟨.noWit, by simp [stepWild, hsig, hb, hst'], huse.symm, fun w hw => nomatch hw⟩
    | wit w =>
      refine ⟨.wit (fromPatStack pats :: w), by simp [stepWild, hsig, hb, hst'], huse.symm, ?_⟩
      intro w' hw'; cases hw'
      exact Nat.succ_le_succ (hinv w rfl)
  | false =>
    have hinc : ¬ ∀ c, t.isCtor c = true → c ∈ dedup hs := fun h => Bool.false_ne_true (hbiff.mpr h)
    obtain ⟨D, hD, hDT, hDuse⟩ := defaultMatrix_spec t ts' ht P hP
    obtain ⟨wr, hwr, hiff, hlw⟩ := ihD D hDT
    have htoAdd : ∃ a, (if (dedup hs).isEmpty then some Pat.wild else notPresent (dedup hs)) = some a := by
      by_cases he : (dedup hs).isEmpty = true
      · exact ⟨.wild, if_pos he⟩
      · rw [if_neg he]
        exact Option.ne_none_iff_exists'.mp
          (notPresent_some t _ (fun h => he (h ▸ rfl)) hsigT hinc)
    obtain ⟨a, ha⟩ := htoAdd
    have huse : Useful (t :: ts') P (.wild :: qs) ↔ Useful ts' D qs := by
      obtain ⟨c, h⟩ := Classical.not_forall.mp hinc
      obtain ⟨hc, hcn⟩ := Classical.not_imp.mp h
      exact hDuse hs c hhs hc (fun h => hcn (mem_dedup.mpr h)) qs
    cases wr with
    | noWit =>
      exact ⟨.noWit, by simp only [stepWild, hsig, hb, hlen, hD, hwr, ha], hiff.trans huse.symm,
        fun w hw => nomatch hw⟩
    | wit w =>
      refine ⟨.wit (a :: w), by simp only [stepWild, hsig, hb, hlen, hD, hwr, ha], hiff.trans huse.symm, ?_⟩
      intro w' hw'; cases hw'
      exact Nat.succ_le_succ (hlw w rfl)

/-! ## The measure -/

mutual
def Ty.size : Ty → Nat
  | .bool => 1
  | .u8 => 1
  | .enum ts => 1 + sizeTys ts
  | .tuple ts => 1 + sizeTys ts
  | .strct ts => 1 + sizeTys ts
def sizeTys : List Ty → Nat
  | [] => 0
  | t :: ts => t.size + sizeTys ts
end

def mu (ts : List Ty) (q : Row) : Nat := sizeTys ts + sizeL q

theorem sizeTys_get {ts : List Ty} {k : Nat} {t : Ty} (h : ts[k]? = some t) : t.size ≤ sizeTys ts := by
  induction ts generalizing k with
  | nil => simp at h
  | cons a ts ih =>
    cases k with
    | zero => simp at h; subst h; simp [sizeTys]
    | succ k => have := ih (by simpa using h); simp [sizeTys]; omega

theorem sizeTys_argTys {t : Ty} {c : Ctor} (hc : t.isCtor c = true) : sizeTys (t.argTys c) < t.size := by
  cases isCtor_iff.mp hc with
  | bool | u8 => exact Nat.zero_lt_one
  | enum h =>
    have := sizeTys_get h
    simp only [Ty.argTys, h, sizeTys, Ty.size]; omega
  | tuple | strct => simp only [Ty.argTys, Ty.size]; omega

theorem Ty.size_pos (t : Ty) : 0 < t.size := by cases t <;> simp [Ty.size] <;> omega

theorem sizeTys_append (a b : List Ty) : sizeTys (a ++ b) = sizeTys a + sizeTys b := by
  induction a with
  | nil => simp [sizeTys]
  | cons x a ih => simp [sizeTys, ih]; omega

theorem sizeL_append (a b : List Pat) : sizeL (a ++ b) = sizeL a + sizeL b := by
  induction a with
  | nil => simp [sizeL]
  | cons x a ih => simp [sizeL, ih]; omega

theorem sizeL_wilds (n : Nat) : sizeL (wilds n) = 0 := by
  induction n with
  | zero => simp [wilds, sizeL]
  | succ n ih => simp only [wilds] at ih; simp [wilds, List.replicate_succ, sizeL, Pat.size, ih]

theorem size_args {p : Pat} {c : Ctor} (hd : p.ctor? = some c) : sizeL p.args < p.size := by
  cases p <;> simp [Pat.ctor?] at hd <;> simp [Pat.args, Pat.size, sizeL]

theorem size_mem {a : Pat} {alts : List Pat} (h : a ∈ alts) : a.size ≤ sizeL alts := by
  induction alts with
  | nil => simp at h
  | cons b alts ih =>
    rcases List.mem_cons.mp h with rfl | h
    · simp [sizeL]
    · have := ih h; simp [sizeL]; omega

/-! ## One unfolding, then all of `is_useful` -/

theorem Ustep_correct (u : Matrix → Row → Option Report) {ts : List Ty} {P : Matrix} {q : Row}
    (hin : inhabL ts = true) (hP : rowsHaveTy P ts) (hq : patsHaveTy q ts = true)
    (ih : ∀ ts2 P2 q2, inhabL ts2 = true → rowsHaveTy P2 ts2 → patsHaveTy q2 ts2 = true →
      mu ts2 q2 < mu ts q → Good ts2 P2 q2 (u P2 q2)) :
    Good ts P q (Ustep u P q) := by
  cases P with
  | nil =>
    refine ⟨.wit (wilds q.length), by simp [Ustep, dims], ?_, ?_⟩
    · obtain ⟨vs, h1, h2⟩ := exists_matchL q ts hin hq
      exact iff_of_true rfl ⟨vs, h1, h2, fun _ hr => nomatch hr⟩
    · intro w hw; cases hw
      rw [wilds_length]; exact leadWilds_le_length q
  | cons r rs =>
    have hdims : dims (r :: rs) = some (rs.length + 1, ts.length) := by
      rw [dims_uniform fun r hr => patsHaveTy_length (hP r hr)]; simp
    cases ts with
    | nil =>
      -- no columns: the empty vector is covered by the row `r = []`
      cases List.eq_nil_of_length_eq_zero (patsHaveTy_length hq)
      refine ⟨.noWit, by simp [Ustep, hdims], iff_of_false Bool.false_ne_true ?_, fun w hw => nomatch hw⟩
      rintro ⟨vs, hty, _, hun⟩
      cases hasTyL_nil hty
      cases List.eq_nil_of_length_eq_zero (patsHaveTy_length (hP r List.mem_cons_self))
      exact Bool.false_ne_true (hun [] List.mem_cons_self).symm
    | cons t ts' =>
      have hdims : dims (r :: rs) = some (rs.length + 1, ts'.length + 1) := hdims
      match q, hq with
      | [], hq => simp [patsHaveTy] at hq
      | q1 :: qs, hq =>
        have hq' := hq
        rw [patsHaveTy, Bool.and_eq_true] at hq'
        have hin' := hin
        rw [inhabL, Bool.and_eq_true] at hin'
        match hc : q1.ctor? with
        | some c =>
          have : Ustep u (r :: rs) (q1 :: qs) = stepCtor u (r :: rs) (q1 :: qs) c := by
            unfold Ustep; rw [hdims]; cases q1 <;> cases hc <;> rfl
          rw [this]
          obtain ⟨hc', hargs⟩ := ctor_of_hasTy hq'.1 hc
          apply stepCtor_correct u hP hq hc
          intro S hS
          apply ih _ _ _ (inhabL_append (inhab_argTys hin'.1 hc') hin'.2) hS
          · rw [patsHaveTy_append (patsHaveTy_length hargs), hargs, hq'.2]; rfl
          · have h1 := sizeTys_argTys hc'
            have h2 := size_args hc
            simp only [mu, sizeTys_append, sizeL_append, sizeTys, sizeL]
            omega
        | none =>
          cases q1 <;> simp only [Pat.ctor?, reduceCtorEq] at hc
          case wild =>
            have : Ustep u (r :: rs) (Pat.wild :: qs) = stepWild u (r :: rs) (Pat.wild :: qs) qs := by
              unfold Ustep; rw [hdims]; rfl
            rw [this]
            apply stepWild_correct u hin'.1 hP hq'.2
            · intro c hc S hS
              apply ih _ _ _ (inhabL_append (inhab_argTys hin'.1 hc) hin'.2) hS
              · rw [patsHaveTy_append (by rw [wilds_length, argTys_length hc]), patsHaveTy_wilds_arity hc, hq'.2]
                rfl
              · have h1 := sizeTys_argTys hc
                simp only [mu, sizeTys_append, sizeL_append, sizeTys, sizeL, sizeL_wilds, Pat.size]
                omega
            · intro D hD
              apply ih _ _ _ hin'.2 hD hq'.2
              have := Ty.size_pos t
              simp only [mu, sizeTys, sizeL, Pat.size]
              omega
          case or ps =>
            have : Ustep u (r :: rs) (Pat.or ps :: qs) = orLoop u qs ps (r :: rs) .noWit := by
              unfold Ustep; rw [hdims]; rfl
            rw [this]
            have hty : ∀ a ∈ ps, patsHaveTy (a :: qs) (t :: ts') = true := fun a ha => by
              rw [patsHaveTy, allHaveTy_mem (hasTy_or hq'.1).2 a ha, hq'.2]; rfl
            apply stepOr_correct u hP hty
            intro a ha P' hP'
            apply ih _ _ _ hin hP' (hty a ha)
            have := size_mem ha
            simp only [mu, sizeTys, sizeL, Pat.size]
            omega

theorem U_correct : ∀ (fuel : Nat) (ts : List Ty) (P : Matrix) (q : Row),
    inhabL ts = true → rowsHaveTy P ts → patsHaveTy q ts = true → mu ts q < fuel →
    Good ts P q (U fuel P q)
  | 0 => fun _ _ _ _ _ _ h => nomatch h
  | fuel + 1 => fun ts P q hin hP hq hfuel => by
    show Good ts P q (Ustep (U fuel) P q)
    apply Ustep_correct (U fuel) hin hP hq
    intro ts2 P2 q2 hin2 hP2 hq2 hlt
    exact U_correct fuel ts2 P2 q2 hin2 hP2 hq2 (by omega)

end SwayVerif.Usefulness
