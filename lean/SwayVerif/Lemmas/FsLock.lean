import SwayVerif.Model.FsLock
/-!
Why a held flag stays visible when publishing steps are isolated (C25). `Inv` says that while a live
process `w` holds, its flag is on disk and every other live process is at a program counter `consistent`
with that: it has touched nothing but this flag. Such a process only moves on to another consistent
program counter (`stepPc_consistent`), since whatever it opens or reads is `w`'s decimal pid, which parses
back (`pidOfContents_toDec`) to an owner that is alive; so nobody unlinks the flag. The one step that
makes a holder, the `rename` of the fixed `lock`, is taken while everybody else is idle (`step_lkRename`).
`stepPc_ret` says what a step can return, for the statements about `is_locked` and `get_locker_pid`.
-/
namespace SwayVerif.FsLock
open SwayVerif.Proc

theorem upd_self {α : Type} (f : Pid → α) (p : Pid) (x : α) : upd f p x p = x := if_pos rfl

theorem upd_ne {α : Type} (f : Pid → α) {p q : Pid} (x : α) (h : q ≠ p) : upd f p x q = f q := if_neg h

theorem setPc_setPc (s : State) (p : Pid) (a b : Pc) : (s.setPc p a).setPc p b = s.setPc p b :=
  congrArg (fun f => ({ s with pc := f } : State)) (funext fun x => by
    show upd (upd s.pc p a) p b x = upd s.pc p b x
    unfold upd; split <;> rfl)

theorem of_upd_false {f : Pid → Bool} {p q : Pid} (h : upd f p false q = true) : q ≠ p ∧ f q = true := by
  unfold upd at h
  split at h
  · cases h
  · exact ⟨‹_›, h⟩

/-! ## decimal round trip -/

def isDigit (b : UInt8) : Prop := 48 ≤ b.toNat ∧ b.toNat ≤ 57

theorem digit_toNat (d : Nat) (h : d < 10) : (UInt8.ofNat (48 + d)).toNat = 48 + d := by
  rw [UInt8.toNat_ofNat']
  exact Nat.mod_eq_of_lt (by omega)

theorem isDigit_digit (d : Nat) (h : d < 10) : isDigit (UInt8.ofNat (48 + d)) := by
  unfold isDigit
  rw [digit_toNat d h]
  omega

theorem parseDigits_digit (d : Nat) (h : d < 10) (r : Bytes) (acc : Nat) :
    parseDigits (UInt8.ofNat (48 + d) :: r) acc = parseDigits r (acc * 10 + d) := by
  have hd := digit_toNat d h
  rw [parseDigits, if_pos (by omega), hd, Nat.add_sub_cancel_left]

theorem toDecAux_digits (fuel n : Nat) (acc : Bytes) (hacc : ∀ b ∈ acc, isDigit b) :
    ∀ b ∈ toDecAux fuel n acc, isDigit b := by
  induction fuel generalizing n acc with
  | zero => exact hacc
  | succ f ih =>
    have hacc' : ∀ b ∈ UInt8.ofNat (48 + n % 10) :: acc, isDigit b :=
      List.forall_mem_cons.mpr ⟨isDigit_digit _ (Nat.mod_lt _ (by decide)), hacc⟩
    rw [toDecAux]
    split
    · exact hacc'
    · exact ih _ _ hacc'

theorem toDecAux_ne_nil (fuel n : Nat) (acc : Bytes) : toDecAux (fuel + 1) n acc ≠ [] := by
  induction fuel generalizing n acc with
  | zero =>
    simp only [toDecAux]
    split <;> exact List.cons_ne_nil _ _
  | succ f ih =>
    rw [toDecAux]
    split
    · exact List.cons_ne_nil _ _
    · exact ih _ _

theorem parseDigits_toDecAux (fuel n : Nat) (acc : Bytes) (hf : n < fuel) :
    parseDigits (toDecAux fuel n acc) 0 = parseDigits acc n := by
  induction fuel generalizing n acc with
  | zero => omega
  | succ f ih =>
    -- the last digit is read back on top of the value `n / 10` of the digits before it
    have key : parseDigits (UInt8.ofNat (48 + n % 10) :: acc) (n / 10) = parseDigits acc n := by
      rw [parseDigits_digit _ (Nat.mod_lt _ (by decide)), Nat.mul_comm, Nat.div_add_mod]
    simp only [toDecAux]
    split
    · next h0 =>
      rw [← h0]
      exact key
    · rw [ih (n / 10) _ (by omega)]
      exact key

theorem toDec_digits (n : Nat) : ∀ b ∈ toDec n, isDigit b :=
  toDecAux_digits _ _ _ (by simp)

theorem toDec_ne_nil (n : Nat) : toDec n ≠ [] := toDecAux_ne_nil _ _ _

theorem dropWhile_isWs_digits (l : Bytes) (h : ∀ b ∈ l, isDigit b) : l.dropWhile isWs = l := by
  cases l with
  | nil => rfl
  | cons a r =>
    have ha := h a (by simp)
    have : isWs a = false := by
      unfold isDigit at ha
      simp [isWs]; omega
    simp [List.dropWhile, this]

theorem trim_digits (l : Bytes) (h : ∀ b ∈ l, isDigit b) : trim l = l := by
  unfold trim
  rw [dropWhile_isWs_digits l h, dropWhile_isWs_digits l.reverse (by simpa using h)]
  simp

theorem readToString_digits (l : Bytes) (h : ∀ b ∈ l, isDigit b) : readToString l = some l := by
  unfold readToString
  rw [if_pos]
  simp only [List.all_eq_true, decide_eq_true_eq]
  intro b hb
  have := h b hb
  unfold isDigit at this
  omega

theorem parseUsize_of_digits (l : Bytes) (n : Nat) (hne : l ≠ []) (hd : ∀ b ∈ l, isDigit b)
    (hp : parseDigits l 0 = some n) (hn : n < usizeBound) : parseUsize l = some n := by
  cases l with
  | nil => exact absurd rfl hne
  | cons a r =>
    have ha : isDigit a := hd a (by simp)
    have hs : stripPlus (a :: r) = a :: r := by
      unfold stripPlus
      split
      · rename_i r' heq
        cases heq
        unfold isDigit at ha; simp at ha
      · rfl
    unfold parseUsize
    rw [hs]
    simp only [hp, hn, if_true]

theorem parseUsize_toDec (n : Nat) (hn : n < usizeBound) : parseUsize (toDec n) = some n := by
  apply parseUsize_of_digits _ _ (toDec_ne_nil n) (toDec_digits n) _ hn
  unfold toDec
  rw [parseDigits_toDecAux _ _ _ (by omega)]
  rfl

theorem pidOfContents_toDec (n : Nat) (hn : n < usizeBound) : pidOfContents (toDec n) = some n := by
  unfold pidOfContents
  rw [readToString_digits _ (toDec_digits n)]
  simp only [Option.getD_some]
  rw [trim_digits _ (toDec_digits n)]
  exact parseUsize_toDec n hn

/-! ## one step of a process: where it goes, what it leaves alone, what it returns -/

def glpNext (p : Pid) : Ctx → Option Nat → Pc
  | .glp, _ => .idle
  | .isLocked, _ => .idle
  | .release k, r => if r.any (· ≠ p) then .glpOpen (.relMsg k) else .relRemove k
  | .relMsg _, _ => .idle

def clNext : Next → Pc
  | .done => .idle
  | .isLocked => .glpOpen .isLocked
  | .lock => .glpOpen (.release .lock)

theorem glpDone_fst (s : State) (p : Pid) (c : Ctx) (r : Option Nat) :
    (glpDone s p c r).1 = s.setPc p (glpNext p c r) := by
  cases c with
  | glp => rfl
  | isLocked => rfl
  | relMsg k => rfl
  | release k =>
    simp only [glpDone, glpNext]
    split <;> rfl

theorem clDone_fst (s : State) (p : Pid) (n : Next) (r : Ret) :
    (clDone s p n r).1 = s.setPc p (clNext n) := by
  cases n <;> rfl

theorem clDone_snd {s : State} {p : Pid} {n : Next} {r x : Ret} (h : (clDone s p n r).2 = some x) : x = r := by
  cases n <;> cases h
  rfl

/-- `get_locker_pid` called in context `ctx` finishes at this program counter with result `res`. -/
inductive GlpFin (s : State) : Pc → Ctx → Option Nat → Prop
  | opn {ctx} : s.file = none → GlpFin s (.glpOpen ctx) ctx none
  | read {ctx h} : pidOfContents (s.content h) = none → GlpFin s (.glpRead ctx h) ctx none
  | act {ctx pid} : s.alive pid = true → GlpFin s (.glpActive ctx pid) ctx (some pid)
  | rem {ctx} : GlpFin s (.glpRemove ctx) ctx none

section
variable {v : Variant} {s t : State} {p : Pid} {c : Pc} {r : Option Ret} {ret : Ret}

theorem exec_step {c : Pc} (hp : s.alive p = true) (hc : s.pc p = c) : exec v s (.step p) = stepPc v s p c := by
  simp only [exec, hp, hc, if_true]

theorem of_exec_step (h : exec v s (.step p) = some (t, r)) : s.alive p = true ∧ stepPc v s p (s.pc p) = some (t, r) := by
  simp only [exec] at h
  split at h
  · exact ⟨‹_›, h⟩
  · cases h

theorem fst_of_some {x : State × Option Ret} (h : some x = some (t, r)) : t = x.1 := by
  cases h; rfl

theorem snd_of_some {x : State × Option Ret} (h : some x = some (t, r)) : x.2 = r := by
  cases h; rfl

def RetOf (s : State) (p : Pid) (c : Pc) (ret : Ret) : Prop :=
  (∃ res, GlpFin s c .glp res ∧ ret = .pid res) ∨ (∃ res, GlpFin s c .isLocked res ∧ ret = .bool (res.any (· ≠ p))) ∨
    ret = .ok ∨ ret = .err ∨ ∃ k, ret = .cleaned k

theorem GlpFin.retOf {s' : State} {ctx : Ctx} {res : Option Nat} (hf : GlpFin s c ctx res)
    (h : (glpDone s' p ctx res).2 = some ret) : RetOf s p c ret := by
  cases ctx with
  | glp => cases h; exact .inl ⟨res, hf, rfl⟩
  | isLocked => cases h; exact .inr (.inl ⟨res, hf, rfl⟩)
  | relMsg k => cases h; exact .inr (.inr (.inr (.inl rfl)))
  | release k => simp only [glpDone] at h; split at h <;> cases h

theorem retOf_err : RetOf s p c .err := .inr (.inr (.inr (.inl rfl)))
theorem retOf_cleaned (k : Nat) : RetOf s p c (.cleaned k) := .inr (.inr (.inr (.inr ⟨k, rfl⟩)))

theorem stepPc_ret (h : stepPc v s p c = some (t, some ret)) : RetOf s p c ret := by
  cases c with
  | idle => cases h
  | glpOpen ctx =>
    simp only [stepPc] at h
    split at h
    · next hfile => exact (GlpFin.opn hfile).retOf (snd_of_some h)
    · cases h
  | glpRead ctx hh =>
    simp only [stepPc] at h
    split at h
    · cases h
    · next hpid => exact (GlpFin.read hpid).retOf (snd_of_some h)
  | glpActive ctx pid =>
    simp only [stepPc] at h
    split at h
    · next hal => exact (GlpFin.act hal).retOf (snd_of_some h)
    · cases h
  | glpRemove ctx => exact GlpFin.rem.retOf (snd_of_some h)
  | relRemove k => cases k <;> cases h; exact .inr (.inr (.inl rfl))
  | lkMkdir => cases h
  | lkCreate =>
    cases v <;> simp only [stepPc] at h
    · split at h <;> cases h
    · cases h
  | lkWrite hh => cases v <;> cases h; exact .inr (.inr (.inl rfl))
  | lkTmpCreate => cases h
  | lkTmpWrite => cases h
  | lkRename => cases h; exact .inr (.inr (.inl rfl))
  | clReadDir n =>
    simp only [stepPc] at h
    split at h
    · exact clDone_snd (snd_of_some h) ▸ retOf_err
    · split at h
      · exact clDone_snd (snd_of_some h) ▸ retOf_cleaned 0
      · cases h
  | clOpen n =>
    simp only [stepPc] at h
    split at h
    · exact clDone_snd (snd_of_some h) ▸ retOf_cleaned 0
    · cases h
  | clRead n hh =>
    simp only [stepPc] at h
    split at h
    · exact clDone_snd (snd_of_some h) ▸ retOf_cleaned 0
    · split at h <;> cases h
  | clActive n pid =>
    simp only [stepPc] at h
    split at h
    · exact clDone_snd (snd_of_some h) ▸ retOf_cleaned 0
    · cases h
  | clRemove n =>
    simp only [stepPc] at h
    split at h
    · exact clDone_snd (snd_of_some h) ▸ retOf_err
    · exact clDone_snd (snd_of_some h) ▸ retOf_cleaned 1

theorem stepPc_bool {b : Bool} (h : stepPc v s p c = some (t, some (.bool b))) :
    ∃ res, GlpFin s c .isLocked res ∧ b = res.any (· ≠ p) := by
  obtain ⟨_, _, ⟨⟩⟩ | ⟨res, hf, h⟩ | ⟨⟨⟩⟩ | ⟨⟨⟩⟩ | ⟨_, ⟨⟩⟩ := stepPc_ret h
  exact ⟨res, hf, Ret.bool.inj h⟩

theorem stepPc_pid {o : Option Nat} (h : stepPc v s p c = some (t, some (.pid o))) : GlpFin s c .glp o := by
  obtain ⟨res, hf, h⟩ | ⟨_, _, ⟨⟩⟩ | ⟨⟨⟩⟩ | ⟨⟨⟩⟩ | ⟨_, ⟨⟩⟩ := stepPc_ret h
  exact Ret.pid.inj h ▸ hf

theorem stepPc_frame (h : stepPc .fixed s p c = some (t, r)) (hc : c ≠ .lkRename) :
    t.holds = s.holds ∧ t.alive = s.alive := by
  cases c <;> simp only [stepPc] at h
  case lkRename => exact absurd rfl hc
  case idle | lkCreate | lkWrite => cases h
  all_goals
    repeat' split at h
    all_goals
      rw [fst_of_some h]
      try rw [glpDone_fst]
      try rw [clDone_fst]
      exact ⟨rfl, rfl⟩

theorem exec_start {op : Op} (h : exec v s (.start p op) = some (t, r)) :
    t.file = s.file ∧ t.data = s.data ∧ t.alive = s.alive ∧ t.pc = upd s.pc p (startPc op) ∧
      t.holds = if op.writes then upd s.holds p false else s.holds := by
  simp only [exec] at h
  split at h
  · rw [fst_of_some h]
    cases op.writes <;> exact ⟨rfl, rfl, rfl, rfl, rfl⟩
  · cases h

end

/-! ## the inductive invariant of `sysIso .fixed` -/

def okCtx (w q : Pid) (c : Ctx) : Prop := q = w → c = .glp ∨ c = .isLocked
def okNext (w q : Pid) (n : Next) : Prop := q = w → n ≠ .lock

/-- Program counters of a live process `q` that are compatible with "`w` holds the flag, it is on disk
(entry `file`), `w` is alive": `q` has either not touched the file yet, or read exactly this entry /
`w`'s pid from it; `w` itself only runs observer operations. Everything else (a pending unlink, the
rest of `lock`) is excluded. -/
def consistent (file : Option Ino) (w q : Pid) : Pc → Prop
  | .idle => True
  | .glpOpen c => okCtx w q c
  | .glpRead c h => okCtx w q c ∧ file = some h
  | .glpActive c pid => okCtx w q c ∧ pid = w
  | .clReadDir n => okNext w q n
  | .clOpen n => okNext w q n
  | .clRead n h => okNext w q n ∧ file = some h
  | .clActive n pid => okNext w q n ∧ pid = w
  | _ => False

def Inv (s : State) : Prop :=
  ∀ w, w < usizeBound → s.holds w = true → s.alive w = true →
    flagShows s w ∧ ∀ q, s.alive q = true → consistent s.file w q (s.pc q)

theorem inv_init (s : State) (h : initial s) : Inv s := by
  intro w _ hh _
  rw [h.2 w] at hh
  exact absurd hh (by decide)

theorem content_of_flagShows {s : State} {w : Pid} {h : Ino} (hf : flagShows s w) (hh : s.file = some h) :
    s.content h = toDec w := by
  obtain ⟨h', h1, h2⟩ := hf
  rw [hh] at h1
  cases h1
  exact h2

theorem consistent_upd {file : Option Ino} {w p : Pid} {pc : Pid → Pc} {c : Pc} (hp : consistent file w p c)
    {q : Pid} (hq : q ≠ p → consistent file w q (pc q)) : consistent file w q (upd pc p c q) := by
  by_cases hqp : q = p
  · rw [hqp, upd_self]
    exact hp
  · rw [upd_ne _ _ hqp]
    exact hq hqp

theorem consistent_clNext (file : Option Ino) (w p : Pid) (n : Next) (h : okNext w p n) :
    consistent file w p (clNext n) := by
  cases n with
  | done => trivial
  | isLocked => intro _; exact Or.inr rfl
  | lock => intro hpw; exact absurd rfl (h hpw)

theorem consistent_glpNext_some (file : Option Ino) (w p : Pid) (c : Ctx) (h : okCtx w p c) :
    consistent file w p (glpNext p c (some w)) := by
  cases c with
  | glp => trivial
  | isLocked => trivial
  | relMsg k => trivial
  | release k =>
    have hne : p ≠ w := by
      intro hpw
      rcases h hpw with h | h <;> cases h
    have : (some w).any (· ≠ p) = true := by
      simp only [Option.any_some, decide_eq_true_eq]
      exact fun h => hne h.symm
    simp only [glpNext, this, if_true]
    intro hpw
    exact absurd hpw hne

theorem GlpFin.found {s : State} {w p : Pid} {c : Pc} {ctx : Ctx} {res : Option Nat} (hw : w < usizeBound)
    (hf : flagShows s w) (hc : consistent s.file w p c) (hfin : GlpFin s c ctx res) : res = some w := by
  cases hfin with
  | opn h =>
    obtain ⟨i, hfile, _⟩ := hf
    rw [hfile] at h
    cases h
  | read h =>
    rw [content_of_flagShows hf hc.2, pidOfContents_toDec w hw] at h
    cases h
  | act _ => rw [hc.2]
  | rem => exact hc.elim

theorem consistent_startPc (file : Option Ino) {w p : Pid} {op : Op} (h : p = w → op.writes = false) :
    consistent file w p (startPc op) := by
  cases op with
  | lock => exact fun hpw => absurd (h hpw) (by decide)
  | release => exact fun hpw => absurd (h hpw) (by decide)
  | markDirty => exact fun hpw => absurd (h hpw) (by decide)
  | isLocked => exact fun _ => .inr rfl
  | getLockerPid => exact fun _ => .inl rfl
  | cleanup => exact fun _ => nofun
  | isFileDirty => exact fun _ => nofun

section
variable {v : Variant} {s t : State} {p w : Pid} {c : Pc} {r : Option Ret}

theorem stepPc_consistent (hw : w < usizeBound) (ha : s.alive w = true) (hf : flagShows s w)
    (hc : consistent s.file w p c) (h : stepPc v s p c = some (t, r)) :
    ∃ c', t = s.setPc p c' ∧ consistent s.file w p c' := by
  have ⟨i, hfile, _⟩ := hf
  cases c with
  | idle => cases h
  | glpOpen ctx =>
    simp only [stepPc, hfile] at h
    exact ⟨_, fst_of_some h, hc, hfile⟩
  | glpRead ctx j =>
    simp only [stepPc, content_of_flagShows hf hc.2, pidOfContents_toDec w hw] at h
    exact ⟨_, fst_of_some h, hc.1, rfl⟩
  | glpActive ctx pid =>
    cases hc.2
    simp only [stepPc, ha, if_true] at h
    exact ⟨_, (fst_of_some h).trans (glpDone_fst ..), consistent_glpNext_some _ _ _ _ hc.1⟩
  | clReadDir n =>
    simp only [stepPc, hfile] at h
    split at h
    · exact ⟨_, (fst_of_some h).trans (clDone_fst ..), consistent_clNext _ _ _ _ hc⟩
    · exact ⟨_, fst_of_some h, hc⟩
  | clOpen n =>
    simp only [stepPc, hfile] at h
    exact ⟨_, fst_of_some h, hc, hfile⟩
  | clRead n j =>
    simp only [stepPc, content_of_flagShows hf hc.2, readToString_digits _ (toDec_digits w),
      trim_digits _ (toDec_digits w), parseUsize_toDec w hw] at h
    exact ⟨_, fst_of_some h, hc.1, rfl⟩
  | clActive n pid =>
    cases hc.2
    simp only [stepPc, ha, if_true] at h
    exact ⟨_, (fst_of_some h).trans (clDone_fst ..), consistent_clNext _ _ _ _ hc.1⟩
  | _ => exact hc.elim

theorem inv_of_frame (hInv : Inv s) (hf : t.file = s.file) (hd : t.data = s.data)
    (ha : ∀ q, t.alive q = true → s.alive q = true) (hh : ∀ w, t.holds w = true → s.holds w = true)
    (hpc : ∀ w q, t.holds w = true → t.alive q = true → consistent s.file w q (s.pc q) →
      consistent s.file w q (t.pc q)) : Inv t := by
  intro w hw hhw haw
  obtain ⟨⟨i, h1, h2⟩, hcons⟩ := hInv w hw (hh w hhw) (ha w haw)
  refine ⟨⟨i, hf ▸ h1, ?_⟩, fun q hq => hf ▸ hpc w q hhw hq (hcons q (ha q hq))⟩
  unfold State.content
  rw [hd]
  exact h2

theorem inv_start {op : Op} (hInv : Inv s) (h : exec .fixed s (.start p op) = some (t, r)) : Inv t := by
  obtain ⟨hf, hd, ha, hpc, hh⟩ := exec_start h
  have hold : ∀ w, t.holds w = true → s.holds w = true ∧ (p = w → op.writes = false) := by
    intro w hw
    rw [hh] at hw
    split at hw
    · exact ⟨(of_upd_false hw).2, fun hpw => absurd hpw.symm (of_upd_false hw).1⟩
    · exact ⟨hw, fun _ => Bool.eq_false_iff.mpr ‹_›⟩
  refine inv_of_frame hInv hf hd (fun q hq => ha ▸ hq) (fun w hw => (hold w hw).1) ?_
  intro w q hw _ hc
  rw [hpc]
  exact consistent_upd (consistent_startPc _ (hold w hw).2) (fun _ => hc)

theorem inv_crash (hInv : Inv s) (h : exec .fixed s (.crash p) = some (t, r)) : Inv t := by
  simp only [exec] at h
  split at h
  · rw [fst_of_some h]
    refine inv_of_frame hInv rfl rfl (fun q hq => (of_upd_false hq).2) (fun _ hw => hw) ?_
    intro w q _ hq hc
    exact consistent_upd (c := .idle) trivial (fun _ => hc)
  · cases h

theorem step_lkRename (hInv : Inv s) (hp : s.alive p = true) (hpc : s.pc p = .lkRename)
    (hiso : ∀ q, q ≠ p → s.alive q = true → s.pc q = .idle)
    (h : stepPc .fixed s p .lkRename = some (t, r)) : Inv t := by
  rw [fst_of_some h]
  intro w hw hh ha
  by_cases hwp : w = p
  · subst hwp
    refine ⟨⟨s.data.length, rfl, ?_⟩, fun q hq => consistent_upd (c := .idle) trivial fun hqw => ?_⟩
    · show (s.data ++ [toDec w]).getD s.data.length [] = toDec w
      simp
    · rw [hiso q hqw hq]
      trivial
  · -- another holder would not tolerate `p` at `lkRename`
    have hh' : s.holds w = true := (upd_ne _ _ hwp).symm.trans hh
    have := (hInv w hw hh' ha).2 p hp
    rw [hpc] at this
    exact this.elim

theorem inv_step {l : Label} (hInv : Inv s) (h : exec .fixed s l = some (t, r)) (hiso : isolated s l) : Inv t := by
  cases l with
  | start p op => exact inv_start hInv h
  | crash p => exact inv_crash hInv h
  | step p =>
    obtain ⟨hp, h⟩ := of_exec_step h
    by_cases hpc : s.pc p = .lkRename
    · rw [hpc] at h
      refine step_lkRename hInv hp hpc ?_ h
      have := hiso
      simp only [isolated, hpc, Pc.isPublish] at this
      exact this trivial
    · -- nothing but `p`'s program counter matters to a holder `w`, and `p` was compatible with `w`
      intro w hw hh ha
      obtain ⟨hholds, halive⟩ := stepPc_frame h hpc
      rw [hholds] at hh
      rw [halive] at ha
      obtain ⟨hf, hcons⟩ := hInv w hw hh ha
      obtain ⟨c', rfl, hc'⟩ := stepPc_consistent hw ha hf (hcons p hp) h
      exact ⟨hf, fun q hq => consistent_upd hc' fun _ => hcons q hq⟩

end

theorem inv_reachable (s : State) (h : Reachable (sysIso .fixed) s) : Inv s :=
  inv_of_step (sysIso .fixed) Inv inv_init
    (fun _ _ _ hI hst => by
      obtain ⟨l, r, he, hiso⟩ := hst
      exact inv_step hI he hiso) s h

end SwayVerif.FsLock
