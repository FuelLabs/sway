import SwayVerif.Lemmas.AsmGraph
/-!
What `validAlloc` checks (`NoClobber`, `Located`), and the simulation of an op list by the same op
list with its registers renamed (`rename_step`): allocation is the renaming `allocReg col`.
-/
namespace SwayVerif.Asm

/-! ### the property -/

def NoClobberAt {γ : Type} (col : Reg → Option γ) (op : AOp) (lo : RSet) : Prop :=
  ∀ v ∈ op.defs, v.isVirt = true → ∀ w ∈ lo, w.isVirt = true → w ≠ v →
    moveOf? op ≠ some (v, w) → ∀ c, col v = some c → col w ≠ some c

/-- No definition anywhere in `ops` overwrites the location of a value that is live after it. -/
def NoClobber {γ : Type} (ops : List AOp) (lo : List RSet) (col : Reg → Option γ) : Prop :=
  ∀ x ∈ ops.zip lo, NoClobberAt col x.1 x.2

def Located (ops : List AOp) (lo : List RSet) (col : Reg → Option Nat) (K : Nat) : Prop :=
  (∀ op ∈ ops, ∀ r ∈ op.defs ++ op.uses, r.isVirt = true → ∃ c, col r = some c ∧ c < K) ∧
  (∀ l ∈ lo, ∀ r ∈ l, r.isVirt = true → ∃ c, col r = some c ∧ c < K)

theorem sameLoc_eq_false {γ : Type} [DecidableEq γ] {col : Reg → Option γ} {v w : Reg} :
    sameLoc col v w = false ↔ ∀ c, col v = some c → col w ≠ some c := by
  unfold sameLoc
  cases col v <;> cases col w <;> simp [eq_comm]

theorem clobberFree_iff {γ : Type} [DecidableEq γ] {col : Reg → Option γ} {op : AOp} {lo : RSet} :
    clobberFree col op lo = true ↔ NoClobberAt col op lo := by
  simp only [clobberFree, NoClobberAt, List.all_eq_true, Bool.or_eq_true, Bool.not_eq_true',
    decide_eq_true_eq, sameLoc_eq_false, Classical.or_iff_not_imp_left, Bool.not_eq_false,
    Classical.not_imp, and_imp]

/-! ### simulation -/

theorem allocReg_isVirt {col : Reg → Option Nat} (r : Reg) :
    (allocReg col r).isVirt = r.isVirt := by
  cases r <;> rfl

theorem allocReg_ne_of_col_ne {col : Reg → Option Nat} {a b : Reg}
    (ha : ∃ c, col a = some c) (hb : ∃ c, col b = some c) (h : ∀ c, col a = some c → col b ≠ some c)
    (hva : a.isVirt = true) (hvb : b.isVirt = true) : allocReg col a ≠ allocReg col b := by
  obtain ⟨ca, hca⟩ := ha
  obtain ⟨cb, hcb⟩ := hb
  cases a with
  | const _ => cases hva
  | virt n =>
    cases b with
    | const _ => cases hvb
    | virt m =>
      simp only [allocReg, hca, hcb, Option.getD_some, ne_eq, Reg.virt.injEq]
      exact fun e => h ca hca (e ▸ hcb)

/-- Writing through a renaming `f`: the value of `w` is found at `f w` provided every other written
register either stays apart from `w` or is given the value `w` has afterwards anyway. -/
theorem writeList_map {V : Type} (f : Reg → Reg) (σ τ : Reg → V) (ps : List (Reg × V)) (w : Reg)
    (hsep : ∀ p ∈ ps, p.1 ≠ w → f p.1 ≠ f w ∨ p.2 = writeList σ ps w)
    (hbase : w ∉ ps.map (·.1) → τ (f w) = σ w) :
    writeList τ (ps.map fun p => (f p.1, p.2)) (f w) = writeList σ ps w := by
  induction ps with
  | nil => exact hbase (by simp)
  | cons p ps ih =>
    simp only [List.map_cons, writeList]
    by_cases hw : w = p.1
    · simp [hw]
    · simp only [hw, if_false]
      have hp := hsep p (List.mem_cons_self ..) (fun e => hw e.symm)
      simp only [writeList, hw, if_false] at hp
      by_cases hf : f w = f p.1
      · simp only [hf, if_true]
        rcases hp with hp | hp
        · exact absurd hf.symm hp
        · exact hp
      · simp only [hf, if_false]
        apply ih
        · intro q hq hqw
          have := hsep q (List.mem_cons_of_mem _ hq) hqw
          simpa only [writeList, hw, if_false] using this
        · intro hnot
          apply hbase
          simp only [List.map_cons, List.mem_cons, not_or]
          exact ⟨hw, hnot⟩

theorem writeList_not_mem {V : Type} (σ : Reg → V) (ps : List (Reg × V)) (w : Reg)
    (h : w ∉ ps.map (·.1)) : writeList σ ps w = σ w := by
  induction ps with
  | nil => rfl
  | cons p ps ih =>
    simp only [List.map_cons, List.mem_cons, not_or] at h
    simp only [writeList, h.1, if_false]
    exact ih h.2

/-- What the machine semantics must respect: a MOVE copies, `defConst` are constant registers,
an op produces one value per register it writes. -/
structure SemOk {V M : Type} (sem : Sem V M) (ops : List AOp) : Prop where
  move : ∀ i op d s, ops[i]? = some op → moveOf? op = some (d, s) →
    ∀ x m outs m' n, sem.exec i [x] m = some (outs, m', n) → outs.head? = some x
  defConst : ∀ op ∈ ops, ∀ r ∈ op.defConst, r.isVirt = false
  arity : ∀ i op, ops[i]? = some op → ∀ ins m outs m' n, sem.exec i ins m = some (outs, m', n) →
    outs.length = (op.defs ++ op.defConst).length

/-- The allocated machine state `t` represents the virtual state `s`: same `pc` and memory, every
live-in virtual register is found in its pool register, constant registers agree. -/
structure Related {V M : Type} (col : Reg → Option Nat) (li : List RSet)
    (s t : MState V M) : Prop where
  pc : t.pc = s.pc
  mem : t.mem = s.mem
  live : ∀ v ∈ li.getD s.pc [], v.isVirt = true → t.regs (allocReg col v) = s.regs v
  const : ∀ c, t.regs (.const c) = s.regs (.const c)

theorem getElem?_zip_of {α β : Type} {l : List α} {r : List β} {i : Nat} {a : α}
    (hlen : r.length = l.length) (h : l[i]? = some a) : ∃ b, r[i]? = some b ∧ (a, b) ∈ l.zip r := by
  have hb : r[i]? = some (r[i]'(hlen ▸ (List.getElem?_eq_some_iff.1 h).1)) := List.getElem?_eq_getElem _
  exact ⟨_, hb, List.mem_of_getElem? (List.getElem?_zip_eq_some.2 ⟨h, hb⟩)⟩

/-- `Related` for an arbitrary renaming `f` of the registers -/
def RelatedBy {V M : Type} (f : Reg → Reg) (li : List RSet) (s t : MState V M) : Prop :=
  t.pc = s.pc ∧ t.mem = s.mem ∧
  (∀ v ∈ li.getD s.pc [], v.isVirt = true → t.regs (f v) = s.regs v) ∧
  ∀ c, t.regs (.const c) = s.regs (.const c)

theorem related_iff {V M : Type} {col : Reg → Option Nat} {li : List RSet} {s t : MState V M} :
    Related col li s t ↔ RelatedBy (allocReg col) li s t :=
  ⟨fun h => ⟨h.pc, h.mem, h.live, h.const⟩, fun ⟨a, b, c, d⟩ => ⟨a, b, c, d⟩⟩

theorem move_writes {V M : Type} {sem : Sem V M} {ops : List AOp} (hsem : SemOk sem ops) {i : Nat}
    {op : AOp} {d v : Reg} (hop : ops[i]? = some op) (hmv : moveOf? op = some (d, v))
    {σ : Reg → V} {m m' : M} {outs : List V} {n : Nat}
    (hex : sem.exec i (op.uses.map σ) m = some (outs, m', n)) :
    ∀ p ∈ (op.defs ++ op.defConst).zip outs, p.1.isVirt = true → p.2 = σ v := by
  obtain ⟨_, hd, hu⟩ := moveOf?_eq_some.1 hmv
  rw [hu] at hex
  have hhead := hsem.move i op d v hop hmv _ _ _ _ _ hex
  intro p hp hpv
  cases outs with
  | nil => cases hhead
  | cons x rest =>
    rw [hd] at hp
    rcases List.mem_cons.1 hp with rfl | hp
    · exact Option.some.inj hhead
    · rw [hsem.defConst op (List.mem_of_getElem? hop) p.1 (List.of_mem_zip hp).1] at hpv
      cases hpv

/-- `f` is `allocReg col` for a clobber-free colouring (`C08_simulation`); the renaming of coalescing
meets `hsep` as well (`coalesce_rename_no_clobber`). -/
theorem rename_step {V M : Type} (sem : Sem V M) (ops : List AOp) (li lo : List RSet) (f : Reg → Reg)
    (hconst : ∀ c, f (.const c) = .const c) (hvirt : ∀ r, (f r).isVirt = r.isVirt)
    (hsol : Solution true ops li lo) (hlen : lo.length = ops.length)
    (hsep : ∀ x ∈ ops.zip lo, ∀ v w, Conflict x.1 x.2 v w → f v ≠ f w) (hsem : SemOk sem ops)
    (s t s' : MState V M) (hR : RelatedBy f li s t) (hstep : step sem ops s = some s') :
    ∃ t', step sem (ops.map (mapOp f)) t = some t' ∧ RelatedBy f li s' t' := by
  obtain ⟨hpc, hmem, hlive, hcst⟩ := hR
  unfold step at hstep
  cases hop : ops[s.pc]? with
  | none => simp only [hop, reduceCtorEq] at hstep
  | some op =>
    cases hex : sem.exec s.pc (op.uses.map s.regs) s.mem with
    | none => simp only [hop, hex, reduceCtorEq] at hstep
    | some res =>
      obtain ⟨outs, m, nxt⟩ := res
      simp only [hop, hex] at hstep
      split at hstep
      case isFalse => cases hstep
      case isTrue hnxt =>
      cases hstep
      have hS := hsol _ _ hop
      obtain ⟨L, hL, hzip⟩ := getElem?_zip_of hlen hop
      have hLD : lo.getD s.pc [] = L := by rw [List.getD_eq_getElem?_getD, hL]; rfl
      have hdc := hsem.defConst op (List.mem_of_getElem? hop)
      have hreads : (op.uses.map f).map t.regs = op.uses.map s.regs := by
        rw [List.map_map]
        refine List.map_congr_left fun r hr => ?_
        cases r with
        | const c => exact (congrArg t.regs (hconst c)).trans (hcst c)
        | virt n => exact hlive _ (hS.1 _ hr rfl) rfl
      have hD : ((op.defs ++ op.defConst).zip outs).map (·.1) = op.defs ++ op.defConst :=
        List.map_fst_zip (Nat.le_of_eq (hsem.arity _ _ hop _ _ _ _ _ hex).symm)
      -- what the renamed op writes to `f w`, provided the other writes stay apart from it
      have hwrite : ∀ w,
          (∀ p ∈ (op.defs ++ op.defConst).zip outs, p.1 ≠ w →
            f p.1 ≠ f w ∨ p.2 = writeList s.regs ((op.defs ++ op.defConst).zip outs) w) →
          (w ∉ op.defs ++ op.defConst → t.regs (f w) = s.regs w) →
          writeList t.regs (((op.defs ++ op.defConst).map f).zip outs) (f w)
            = writeList s.regs ((op.defs ++ op.defConst).zip outs) w := by
        intro w hsep' hbase
        rw [List.zip_map_left]
        exact writeList_map f _ _ _ w hsep' (by rw [hD]; exact hbase)
      refine ⟨⟨nxt, writeList t.regs (((op.defs ++ op.defConst).map f).zip outs), m⟩, ?_, rfl, rfl, ?_, ?_⟩
      · simp only [step, hpc, hmem, List.getElem?_map, hop, Option.map_some, mapOp, hreads, hex, hnxt,
          if_true, List.map_append]
      · -- a live-in register `v` of the successor is live-out here
        intro v hv hvv
        have hvL : v ∈ L := hLD ▸ hS.2.2 _ hnxt v hv
        refine hwrite v (fun p hp hpv => ?_) fun hnot =>
          hlive v (hS.2.1 v (hLD ▸ hvL) fun h => hnot (List.mem_append_left _ h)) hvv
        cases hpvirt : p.1.isVirt
        · exact .inl fun e => Bool.false_ne_true
            (hpvirt.symm.trans ((hvirt p.1).symm.trans ((congrArg Reg.isVirt e).trans ((hvirt v).trans hvv))))
        · have hpd : p.1 ∈ op.defs := (List.mem_append.1 (List.of_mem_zip hp).1).resolve_right
            fun h => Bool.false_ne_true ((hdc _ h).symm.trans hpvirt)
          by_cases hmv : moveOf? op = some (p.1, v)
          · -- the copy itself: the colliding write carries the value of `v`, which is not written
            right
            have hvD : v ∉ op.defs ++ op.defConst := fun h => (List.mem_append.1 h).elim
              (fun h => hpv (List.mem_singleton.1 ((moveOf?_eq_some.1 hmv).2.1 ▸ h)).symm)
              fun h => Bool.false_ne_true ((hdc _ h).symm.trans hvv)
            rw [writeList_not_mem _ _ _ (hD.symm ▸ hvD)]
            exact move_writes hsem hop hmv hex p hp hpvirt
          · exact .inl (hsep _ hzip p.1 v ⟨hpd, hpvirt, hvL, hvv, fun e => hpv e.symm, hmv⟩)
      · -- a constant register is only written under its own name
        intro c
        have := hwrite (.const c) (fun p _ hpc => .inl fun e => hpc ?_)
          fun _ => (congrArg t.regs (hconst c)).trans (hcst c)
        · rw [hconst] at this; exact this
        · cases hp : p.1 with
          | const c' => rw [hp, hconst, hconst] at e; exact e
          | virt n =>
            have := (hvirt p.1).symm.trans (congrArg Reg.isVirt e)
            rw [hp, hvirt] at this
            cases this

end SwayVerif.Asm
