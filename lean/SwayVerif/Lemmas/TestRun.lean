import SwayVerif.Model.TestRun
/-!
For C29: `contains` is the substring relation (`contains_iff`), and so is the driver's independent reading
of it (`containsSpec_iff`); under any schedule a thread ends where its own steps take it (`runSched_get`),
which after `ops.length + 1` of them is the outcome of `exec` (`Thread.steps_exec`); a result is reported
iff it is the run of a selected test of the suite (`mem_runAll`).
-/
namespace SwayVerif.TestRun

theorem isPrefix_iff (p s : List Char) : isPrefix p s = true ↔ ∃ b, s = p ++ b := by
  induction p generalizing s with
  | nil => simp [isPrefix]
  | cons a p ih =>
    cases s with
    | nil => simp [isPrefix]
    | cons c s =>
      simp only [isPrefix, Bool.and_eq_true, beq_iff_eq, ih, List.cons_append, List.cons.injEq]
      constructor
      · rintro ⟨rfl, b, rfl⟩; exact ⟨b, rfl, rfl⟩
      · rintro ⟨b, rfl, rfl⟩; exact ⟨rfl, b, rfl⟩

theorem contains_iff (s p : List Char) : contains s p = true ↔ ∃ a b, s = a ++ p ++ b := by
  induction s with
  | nil =>
    simp only [contains, isPrefix_iff]
    constructor
    · rintro ⟨b, h⟩; exact ⟨[], b, h⟩
    · rintro ⟨a, b, h⟩
      obtain ⟨hap, rfl⟩ := List.nil_eq_append_iff.1 h
      obtain ⟨_, rfl⟩ := List.append_eq_nil_iff.1 hap
      exact ⟨[], rfl⟩
  | cons c r ih =>
    simp only [contains, Bool.or_eq_true, isPrefix_iff, ih]
    constructor
    · rintro (⟨b, h⟩ | ⟨a, b, h⟩)
      · exact ⟨[], b, by simpa using h⟩
      · exact ⟨c :: a, b, by simp [h]⟩
    · rintro ⟨a, b, h⟩
      cases a with
      | nil => exact Or.inl ⟨b, by simpa using h⟩
      | cons x a =>
        simp only [List.cons_append, List.cons.injEq] at h
        exact Or.inr ⟨a, b, h.2⟩

theorem containsSpec_iff (s p : List Char) : containsSpec s p = true ↔ ∃ a b, s = a ++ p ++ b := by
  simp only [containsSpec, List.any_eq_true, List.mem_range, decide_eq_true_eq]
  constructor
  · rintro ⟨i, _, h⟩
    refine ⟨s.take i, (s.drop i).drop p.length, ?_⟩
    have h1 : s.drop i = p ++ (s.drop i).drop p.length := by
      conv => lhs; rw [← List.take_append_drop p.length (s.drop i), h]
    rw [List.append_assoc, ← h1, List.take_append_drop]
  · rintro ⟨a, b, rfl⟩
    refine ⟨a.length, by simp; omega, ?_⟩
    simp [List.append_assoc]

theorem containsSpec_eq (s p : List Char) : containsSpec s p = contains s p := by
  rw [Bool.eq_iff_iff, containsSpec_iff, contains_iff]

theorem selectedSpec_eq (f : Option Filter) (n : List Char) : selectedSpec f n = selected f n := by
  cases f with
  | none => rfl
  | some f => simp [selectedSpec, selected, Filter.matches, containsSpec_eq]

theorem lookup_of_mem_nodup {β : Type} (l : List (List Char × β)) (h : (l.map (·.1)).Nodup)
    (k : List Char) (v : β) (hm : (k, v) ∈ l) : l.lookup k = some v := by
  induction l with
  | nil => cases hm
  | cons e l ih =>
    obtain ⟨k', v'⟩ := e
    simp only [List.map_cons, List.nodup_cons] at h
    rcases List.mem_cons.mp hm with heq | hin
    · cases heq; simp [List.lookup]
    · have hne : k ≠ k' := by
        rintro rfl
        exact h.1 (List.mem_map.mpr ⟨(k, v), hin, rfl⟩)
      have hb : (k == k') = false := by simpa using hne
      simp only [List.lookup, hb]
      exact ih h.2 hin

/-! ### Schedules -/

theorem Thread.step_of_done (t : Thread) (h : t.res.isSome) : t.step = t := by
  unfold Thread.step
  cases hr : t.res with
  | none => simp [hr] at h
  | some _ => rfl

theorem Thread.steps_of_done (n : Nat) (t : Thread) (h : t.res.isSome) : Thread.steps n t = t := by
  induction n with
  | zero => rfl
  | succ n ih => simp [Thread.steps, Thread.step_of_done t h, ih]

theorem Thread.steps_add (m n : Nat) (t : Thread) :
    Thread.steps (m + n) t = Thread.steps n (Thread.steps m t) := by
  induction m generalizing t with
  | zero => simp [Thread.steps]
  | succ m ih => rw [Nat.succ_add]; simp [Thread.steps, ih]

theorem Thread.steps_exec (ops : List Op) (st : Storage) (lg : List Nat) :
    Thread.steps (ops.length + 1) { ops := ops, st := st, logs := lg, res := none }
      = { ops := [], st := (exec ops st lg).2.2, logs := (exec ops st lg).2.1,
          res := some (exec ops st lg).1 } := by
  induction ops generalizing st lg with
  | nil => rfl
  | cons o r ih =>
    show Thread.steps (r.length + 1) (Thread.step { ops := o :: r, st := st, logs := lg, res := none }) = _
    cases o with
    | log v => exact ih st (lg ++ [v])
    | read k => exact ih st (lg ++ [st.getD k 0])
    | write k v => exact ih (st.set k v) lg
    | expect k v =>
      by_cases hc : st.getD k 0 = v
      · have e1 : Thread.step { ops := Op.expect k v :: r, st := st, logs := lg, res := none }
            = { ops := r, st := st, logs := lg, res := none } := if_pos hc
        have e2 : exec (Op.expect k v :: r) st lg = exec r st lg := if_pos hc
        rw [e1, e2]; exact ih st lg
      · have e1 : Thread.step { ops := Op.expect k v :: r, st := st, logs := lg, res := none }
            = { ops := [], st := st, logs := lg, res := some (.state (.revert assertCode)) } := if_neg hc
        have e2 : exec (Op.expect k v :: r) st lg = (.state (.revert assertCode), lg, st) := if_neg hc
        rw [e1, e2]; exact Thread.steps_of_done _ _ rfl
    | revert c => exact Thread.steps_of_done _ { ops := [], st := st, logs := lg, res := some (.state (.revert c)) } rfl
    | vmPanic => exact Thread.steps_of_done _ { ops := [], st := st, logs := lg, res := some (.state (.revert 0)) } rfl
    | hostError => exact Thread.steps_of_done _ { ops := [], st := st, logs := lg, res := some .error } rfl

theorem stepAt_get (ths : List Thread) (j i : Nat) :
    (stepAt ths j)[i]? = if j = i then ths[i]?.map Thread.step else ths[i]? := by
  unfold stepAt
  by_cases h : j = i
  · subst h
    rw [if_pos rfl]
    cases hj : ths[j]? with
    | none => exact hj
    | some t => exact List.getElem?_set_self (List.getElem?_eq_some_iff.1 hj).1
  · rw [if_neg h]
    cases ths[j]? with
    | none => rfl
    | some t => exact List.getElem?_set_ne h

theorem runSched_get (ths : List Thread) (sched : List Nat) (i : Nat) :
    (runSched ths sched)[i]? = ths[i]?.map (Thread.steps (sched.count i)) := by
  induction sched generalizing ths with
  | nil => cases h : ths[i]? <;> exact h
  | cons j s ih =>
    show (runSched (stepAt ths j) s)[i]? = _
    rw [ih, stepAt_get]
    by_cases h : j = i
    · subst h
      rw [if_pos rfl, List.count_cons_self]
      cases ths[j]? <;> rfl
    · rw [if_neg h, List.count_cons_of_ne h]

theorem mem_runAll {σ : Type} (s : Setup σ) (ts : List (TestDecl σ)) (f : Option Filter) (r : Result) :
    r ∈ runAll s ts f ↔ ∃ t ∈ ts, selected f t.name = true ∧ r = run s t := by
  simp only [runAll, List.mem_map, List.mem_filter]
  constructor
  · rintro ⟨t, ⟨ht, hs⟩, rfl⟩; exact ⟨t, ht, hs, rfl⟩
  · rintro ⟨t, ht, hs, rfl⟩; exact ⟨t, ⟨ht, hs⟩, rfl⟩

end SwayVerif.TestRun
