import SwayVerif.Model.LspSched
/-!
Invariants of the C24 scheduling model and their preservation by every step (handlers
pre-emptible everywhere, any number of handlers).

The invariants all have the shape "flag raised ⇒ somebody will still act on it", and the somebody is
always the same: a request in the channel, the worker at certain program counters, or a handler that
is committed to sending a request (`Queued`). A handler step cannot lose that: the only step that
leaves the committed program counters is `send`, which fills the channel, and the only handler step
that empties the channel is the drain loop, which is itself committed. Everything else about handler
steps is a frame fact (`HMove.frame`) or says where a changed flag or program counter can have come from.

`hstep` and `wstep` are read once, into the tables `HMove` and `WMove` (one row per program counter and
outcome); every fact about a single step is then proved by cases on its row.
-/
namespace SwayVerif.LspSched

@[simp] theorem upd_same (f : Nat → HPc) (i : Nat) (v : HPc) : upd f i v i = v := by simp [upd]
theorem upd_other (f : Nat → HPc) {i j : Nat} (v : HPc) (h : j ≠ i) : upd f i v j = f j := by
  simp [upd, h]
theorem upd_eq_self (f : Nat → HPc) (i : Nat) : upd f i (f i) = f := by
  funext j
  unfold upd
  split
  · next h => rw [h]
  · rfl

/-- The handler will certainly perform a `send` later. -/
def HPc.willSend : HPc → Bool
  | .hInit .open true | .oSetIc | .sLoadIc _ | .sStoreRt _ | .sFull _ | .sDrain _ | .sSend _ => true
  | _ => false

/-- Program counters that exist only in other versions of `did_open` (store after the send, store
before the look-ups). -/
def HPc.foreign : HPc → Bool
  | .oSetIcLate | .oSetIcEarly _ => true
  | _ => false

/-- The handler is past the place of its `retrigger_compilation.store(true)` (done only if it loaded
`is_compiling = true`) and before the end of its `send`. -/
def HPc.sendSoon : HPc → Bool
  | .sFull _ | .sDrain _ | .sSend _ => true
  | _ => false

/-- Snapshot carried by a `wait_for_parsing` program counter. -/
def HPc.sn? : HPc → Option Nat
  | .pLoadIc sn | .pReadLs sn | .pEmpty sn | .pAwait sn => some sn
  | _ => none

/-- Worker between `recv` and `is_compiling.store(false)`. -/
def WPc.pre : WPc → Bool
  | .clrRtRecv | .setIc | .start | .chk0 | .comp _ | .aborted | .fin | .clrIc => true
  | _ => false

/-- Worker between `recv` and the write of `last_compilation_state`. -/
def WPc.preLs : WPc → Bool
  | .clrRtRecv | .setIc | .start | .chk0 | .comp _ | .aborted | .fin => true
  | _ => false

/-- Worker between `recv` and the end of the compilation proper. -/
def WPc.compiling : WPc → Bool
  | .clrRtRecv | .setIc | .start | .chk0 | .comp _ | .fin => true
  | _ => false

def AnyH (P : HPc → Bool) (f : Nat → HPc) : Prop := ∃ i, P (f i) = true

theorem anyH_upd_self {P : HPc → Bool} {f : Nat → HPc} {i : Nat} {v : HPc} (hv : P v = true) :
    AnyH P (upd f i v) := ⟨i, by simpa using hv⟩

theorem anyH_upd_keep {P : HPc → Bool} {f : Nat → HPc} {i : Nat} {v : HPc}
    (h : AnyH P f) (hi : P (f i) = true → P v = true) : AnyH P (upd f i v) := by
  obtain ⟨j, hj⟩ := h
  by_cases hji : j = i
  · subst hji; exact ⟨j, by simpa using hi hj⟩
  · exact ⟨j, by rw [upd_other _ _ hji]; exact hj⟩

theorem anyH_of_upd {P : HPc → Bool} {f : Nat → HPc} {i : Nat} {v : HPc}
    (h : AnyH P (upd f i v)) : P v = true ∨ AnyH P f := by
  obtain ⟨j, hj⟩ := h
  by_cases hji : j = i
  · subst hji; left; simpa using hj
  · right; exact ⟨j, by rw [upd_other _ _ hji] at hj; exact hj⟩

/-- Handlers are allocated in order: nothing lives at or above `s.n`. -/
def InvW (s : State) : Prop := ∀ j, s.n ≤ j → s.h j = .absent

def Queued (P : HPc → Bool) (s : State) : Prop := s.chan = true ∨ AnyH P s.h

/-- Something is still going to call `notify_waiters` later: a queued request, a busy worker, or a
handler that is going to send. -/
def Pend (s : State) : Prop := s.wpc ≠ .idle ∨ Queued HPc.willSend s

/-- Invariant behind C24 (a). -/
structure InvA (s : State) : Prop where
  noLate : ∀ i, (s.h i).foreign = false
  ic : s.ic = true → s.wpc.pre = true ∨ Queued HPc.willSend s
  ls : s.opened = true → s.ls ≠ .uninit ∨ s.wpc.preLs = true ∨ Queued HPc.willSend s
  opened : ∀ i, s.h i ≠ .absent → s.opened = true
  snapLe : ∀ i sn, (s.h i).sn? = some sn → sn ≤ s.nw
  wait : ∀ i sn, s.h i = .pAwait sn → sn < s.nw ∨ Pend s

/-- Invariant behind C24 (b). -/
structure InvB (s : State) : Prop where
  rt : s.rt = true → s.wpc = .clrRtRecv ∨ Queued HPc.sendSoon s
  snap : (s.wpc = .comp true ∨ s.wpc = .fin) → s.snap = s.latest ∨ Queued HPc.willSend s
  last : s.lastDone = s.latest ∨ s.wpc.compiling = true ∨ Queued HPc.willSend s

theorem sendSoon_willSend {p : HPc} (h : p.sendSoon = true) : p.willSend = true := by
  cases p <;> simp_all [HPc.sendSoon, HPc.willSend]

theorem Queued.sendSoon_willSend {s : State} (h : Queued HPc.sendSoon s) : Queued HPc.willSend s :=
  h.imp_right fun ⟨i, hi⟩ => ⟨i, SwayVerif.LspSched.sendSoon_willSend hi⟩

/-! ## One handler step -/

section
variable {c : Cfg} {s t u : State} {i : Nat} {l : HLabel} {p p' : HPc}

/-- `hstep` row by row: handler `i` at `p` performs `l` in `s` and goes to `p'`; `u` is the state it
leaves, its own program counter apart. -/
inductive HMove (c : Cfg) (s : State) (i : Nat) : HPc → HLabel → HPc → State → Prop
  | spawn p k v : i = s.n → (c.openedFirst = true → (k = .open ∧ v = true) ∨ s.opened = true) →
      HMove c s i p (.spawn k v) (spawnPc c v k)
        { s with n := s.n + 1, opened := s.opened || (decide (k = .open) && v) }
  | lookup k : HMove c s i (.hInit k true) .lookup (afterLookup c k) s
  | failInit k : HMove c s i (.hInit k false) .fail .done s
  | failWrite : HMove c s i .cWrite .fail .done s
  | setIcEarly v : HMove c s i (.oSetIcEarly v) .setIc (.hInit .open v) { s with ic := true }
  | setIc : HMove c s i .oSetIc .setIc (.sLoadIc .open) { s with ic := true }
  | setIcLate : HMove c s i .oSetIcLate .setIc (waitStart c) { s with ic := true }
  | write : HMove c s i .cWrite .write (.sLoadIc .change) { s with latest := s.latest + 1 }
  | loadIc k : HMove c s i (.sLoadIc k) .loadIc (if s.ic then .sStoreRt k else .sFull k) s
  | storeRt k : HMove c s i (.sStoreRt k) .storeRt (.sFull k) { s with rt := true }
  | isFull k : HMove c s i (.sFull k) .isFull (if s.chan then .sDrain k else .sSend k) s
  | drain k : s.chan = true → HMove c s i (.sDrain k) .tryRecv (.sDrain k) { s with chan := false }
  | drained k : s.chan = false → HMove c s i (.sDrain k) .tryRecv (.sSend k) s
  | send k : s.chan = false → HMove c s i (.sSend k) .send (afterSend c k) { s with chan := true }
  | snap : HMove c s i .pSnap .snap (if c.notifiedFirst then .pLoadIc s.nw else .pAwait s.nw) s
  | pLoadIc sn : HMove c s i (.pLoadIc sn) .pLoadIc (if s.ic then goWait c sn else .pReadLs sn) s
  | readLs sn : HMove c s i (.pReadLs sn) .readLs (if s.ls = .uninit then goWait c sn else .pEmpty sn) s
  | pIsEmpty sn : HMove c s i (.pEmpty sn) .pIsEmpty (if s.chan then goWait c sn else .done) s
  | wake sn : s.nw ≠ sn → HMove c s i (.pAwait sn) .wake (waitStart c) s

theorem hstep_move (hl : hstep c s i l = some t) :
    ∃ p' u, HMove c s i (s.h i) l p' u ∧ t = { u with h := upd s.h i p' } := by
  have row {p p' u l} (hp : s.h i = p) (hm : HMove c s i p l p' u)
      (hl : some ({ u with h := upd s.h i p' } : State) = some t) :
      ∃ p' u, HMove c s i (s.h i) l p' u ∧ t = { u with h := upd s.h i p' } :=
    ⟨p', u, hp ▸ hm, (Option.some.inj hl).symm⟩
  unfold hstep at hl
  split at hl
  · split at hl
    · next h => exact row rfl (.spawn _ _ _ h.1 h.2) hl
    · cases hl
  -- the other labels: where the program counter does not match there is no step
  all_goals split at hl
  all_goals try (cases hl; done)
  · next hp => exact row hp (.lookup _) hl
  · next hp => exact row hp (.failInit _) hl
  · next hp => exact row hp .failWrite hl
  · next hp => exact row hp (.setIcEarly _) hl
  · next hp => exact row hp .setIc hl
  · next hp => exact row hp .setIcLate hl
  · next hp => exact row hp .write hl
  · next hp => exact row hp (.loadIc _) hl
  · next hp => exact row hp (.storeRt _) hl
  · next hp => exact row hp (.isFull _) hl
  · next k hp =>
    split at hl
    · next hc =>
      -- the drain loop stays where it is
      have e : upd s.h i (.sDrain k) = s.h := hp ▸ upd_eq_self s.h i
      exact row hp (.drain k hc) (by rw [e]; exact hl)
    · next hc => exact row hp (.drained k (Bool.eq_false_iff.2 hc)) hl
  · next k hp =>
    split at hl
    · cases hl
    · next hc => exact row hp (.send k (Bool.eq_false_iff.2 hc)) hl
  · next hp => exact row hp .snap hl
  · next hp => exact row hp (.pLoadIc _) hl
  · next hp => exact row hp (.readLs _) hl
  · next hp => exact row hp (.pIsEmpty _) hl
  · next sn hp =>
    split at hl
    · cases hl
    · next hc => exact row hp (.wake sn hc) hl

theorem HMove.frame (hm : HMove c s i p l p' u) :
    u.wpc = s.wpc ∧ u.nw = s.nw ∧ u.ls = s.ls ∧ u.snap = s.snap ∧ u.lastDone = s.lastDone := by
  cases hm <;> exact ⟨rfl, rfl, rfl, rfl, rfl⟩

theorem HMove.alloc (hm : HMove c s i p l p' u) : s.n ≤ u.n ∧ (p = .absent → i < u.n) := by
  cases hm
  case spawn hi _ => exact ⟨Nat.le_succ _, fun _ => hi ▸ Nat.lt_succ_self _⟩
  all_goals exact ⟨Nat.le_refl _, nofun⟩

theorem HMove.keeps_willSend (hm : HMove c s i p l p' u) (hw : s.n ≤ i → p = .absent)
    (h : s.chan = true ∨ p.willSend = true) : u.chan = true ∨ p'.willSend = true := by
  cases hm
  case spawn hi _ => exact h.imp_right fun h => by rw [hw (Nat.le_of_eq hi.symm)] at h; cases h
  case lookup k =>
    cases k
    case «open» => right; simp only [afterLookup]; split <;> rfl
    all_goals exact h.imp_right nofun
  case send => exact .inl rfl
  case setIc | write | storeRt | drain | drained => exact .inr rfl
  case loadIc | isFull => right; split <;> rfl
  case failInit k => cases k <;> exact h.imp_right nofun
  all_goals exact h.imp_right nofun

theorem HMove.keeps_sendSoon (hm : HMove c s i p l p' u) (hw : s.n ≤ i → p = .absent)
    (h : s.chan = true ∨ p.sendSoon = true) : u.chan = true ∨ p'.sendSoon = true := by
  cases hm
  case spawn hi _ => exact h.imp_right fun h => by rw [hw (Nat.le_of_eq hi.symm)] at h; cases h
  case send => exact .inl rfl
  case storeRt | drain | drained => exact .inr rfl
  case isFull => right; split <;> rfl
  all_goals exact h.imp_right nofun

/-- The flags and the document version are written only by a handler that then goes on to send
(`is_compiling`: by the repaired `did_open` only; `opened`: unless `did_open` stores before its look-ups). -/
theorem HMove.writes (hm : HMove c s i p l p' u) :
    (u.rt = true → s.rt = true ∨ p'.sendSoon = true) ∧
    (u.latest = s.latest ∨ p'.willSend = true) ∧
    (p.foreign = false → u.ic = true → s.ic = true ∨ p'.willSend = true) ∧
    (c.openStoreEarly = false → u.opened = true → s.opened = true ∨ p'.willSend = true) ∧
    (s.opened = true → u.opened = true) := by
  cases hm
  case spawn k v _ _ =>
    refine ⟨Or.inl, .inl rfl, fun _ => Or.inl, fun hc4 h => ?_, fun h => Bool.or_eq_true_iff.2 (.inl h)⟩
    simp only [Bool.or_eq_true, Bool.and_eq_true, decide_eq_true_eq] at h
    obtain h | ⟨rfl, rfl⟩ := h
    · exact .inl h
    · exact .inr (by simp only [spawnPc, hc4]; rfl)
  case setIcEarly | setIcLate => exact ⟨Or.inl, .inl rfl, nofun, fun _ => Or.inl, id⟩
  case setIc => exact ⟨Or.inl, .inl rfl, fun _ _ => .inr rfl, fun _ => Or.inl, id⟩
  case write => exact ⟨Or.inl, .inr rfl, fun _ => Or.inl, fun _ => Or.inl, id⟩
  case storeRt => exact ⟨fun _ => .inr rfl, .inl rfl, fun _ => Or.inl, fun _ => Or.inl, id⟩
  all_goals exact ⟨Or.inl, .inl rfl, fun _ => Or.inl, fun _ => Or.inl, id⟩

/-- Where the mover's new program counter can have come from, for the repaired `did_open` and
`wait_for_parsing`. -/
theorem HMove.mover (hc1 : c.notifiedFirst = true) (hc2 : c.openStoreFirst = true)
    (hc3 : c.openedFirst = true) (hc4 : c.openStoreEarly = false) (hm : HMove c s i p l p' u) :
    p'.foreign = false ∧ (p ≠ .absent ∨ u.opened = true) ∧
      ∀ sn, p'.sn? = some sn → (p.sn? = some sn ∨ sn = s.nw) ∧
        (p' = .pAwait sn → p ≠ .absent ∧ (s.ic = true ∨ s.ls = .uninit ∨ s.chan = true)) := by
  have hws : waitStart c = .pSnap := if_pos hc1
  have hgw (sn) : goWait c sn = .pAwait sn := if_pos hc1
  -- a new program counter outside `wait_for_parsing`
  have plain {q : HPc} {P : Nat → Prop} (hs : q.sn? = none) (sn : Nat) (h : q.sn? = some sn) : P sn := by
    rw [hs] at h; cases h
  cases hm
  case spawn k v _ hg =>
    refine ⟨?_, .inr ?_, ?_⟩
    · cases k <;> simp [spawnPc, hc4, hws, HPc.foreign]
    · obtain ⟨rfl, rfl⟩ | h := hg hc3
      · exact Bool.or_true _
      · exact Bool.or_eq_true_iff.2 (.inl h)
    · exact plain (by cases k <;> simp [spawnPc, hc4, hws, HPc.sn?])
  case lookup k =>
    exact ⟨by cases k <;> simp [afterLookup, hc2, hc4, HPc.foreign], .inl nofun,
      plain (by cases k <;> simp [afterLookup, hc2, hc4, HPc.sn?])⟩
  case send k _ =>
    exact ⟨by cases k <;> simp [afterSend, hc2, hws, HPc.foreign], .inl nofun,
      plain (by cases k <;> simp [afterSend, hc2, hws, HPc.sn?])⟩
  case setIcLate | wake => rw [hws]; exact ⟨rfl, .inl nofun, plain rfl⟩
  case loadIc | isFull => split <;> exact ⟨rfl, .inl nofun, plain rfl⟩
  case snap =>
    rw [if_pos hc1]
    exact ⟨rfl, .inl nofun, fun sn h => ⟨.inr (Option.some.inj h).symm, nofun⟩⟩
  case pLoadIc sn =>
    split
    · next h => rw [hgw]; exact ⟨rfl, .inl nofun, fun _ e => ⟨.inl e, fun _ => ⟨nofun, .inl h⟩⟩⟩
    · exact ⟨rfl, .inl nofun, fun _ e => ⟨.inl e, nofun⟩⟩
  case readLs sn =>
    split
    · next h => rw [hgw]; exact ⟨rfl, .inl nofun, fun _ e => ⟨.inl e, fun _ => ⟨nofun, .inr (.inl h)⟩⟩⟩
    · exact ⟨rfl, .inl nofun, fun _ e => ⟨.inl e, nofun⟩⟩
  case pIsEmpty sn =>
    split
    · next h => rw [hgw]; exact ⟨rfl, .inl nofun, fun _ e => ⟨.inl e, fun _ => ⟨nofun, .inr (.inr h)⟩⟩⟩
    · exact ⟨rfl, .inl nofun, plain rfl⟩
  all_goals exact ⟨rfl, .inl nofun, plain rfl⟩

end

/-! ## One worker step -/

section
variable {c : Cfg} {s t : State} {l : WLabel}

inductive WMove (c : Cfg) (s : State) : WLabel → State → Prop
  | recv : s.wpc = .idle → s.chan = true →
      WMove c s .recv { s with chan := false, wpc := if c.clearAtRecv then .clrRtRecv else .setIc }
  | clrRtRecv : s.wpc = .clrRtRecv → WMove c s .clrRt { s with rt := false, wpc := .setIc }
  | clrRt : s.wpc = .clrRt → WMove c s .clrRt { s with rt := false, wpc := .empty }
  | setIc : s.wpc = .setIc → WMove c s .setIc { s with ic := true, wpc := .start }
  | start : s.wpc = .start → WMove c s .start { s with wpc := .chk0 }
  | chk0 : s.wpc = .chk0 → WMove c s .chk { s with wpc := if s.rt then .aborted else .comp false }
  | chk rd : s.wpc = .comp rd → WMove c s .chk { s with wpc := if s.rt then .aborted else .comp rd }
  | read : s.wpc = .comp false → WMove c s .read { s with snap := s.latest, wpc := .comp true }
  | finish : s.wpc = .comp true → WMove c s .finish { s with wpc := .fin }
  | lsAbort : s.wpc = .aborted → WMove c s .lsAbort { s with ls := .failed, wpc := .clrIc }
  | lsDone ok : s.wpc = .fin →
      WMove c s (.lsDone ok) { s with ls := if ok then .success else .failed, lastDone := s.snap, wpc := .clrIc }
  | clrIc : s.wpc = .clrIc →
      WMove c s .clrIc { s with ic := false, wpc := if c.clearAtRecv then .empty else .clrRt }
  | isEmpty : s.wpc = .empty → WMove c s .isEmpty { s with wpc := if s.chan then .idle else .notify }
  | notify : s.wpc = .notify → WMove c s .notify { s with nw := s.nw + 1, wpc := .idle }

theorem wstep_move (hl : wstep c s l = some t) : WMove c s l t := by
  unfold wstep at hl
  split at hl
  all_goals split at hl
  -- where the program counter does not match there is no step
  all_goals try cases hl
  · next h => exact .recv h.1 h.2
  · next h => exact .clrRtRecv h
  · split at hl
    · next h => cases hl; exact .clrRt h
    · cases hl
  · next h => exact .setIc h
  · next h => exact .start h
  · next h => exact .chk0 h
  · next h => exact .chk _ h
  · next h => exact .read h
  · next h => exact .finish h
  · next h => exact .lsAbort h
  · next h => exact .lsDone _ h
  · next h => exact .clrIc h
  · next h => exact .isEmpty h
  · next h => exact .notify h

theorem WMove.frame (hm : WMove c s l t) :
    t.h = s.h ∧ t.n = s.n ∧ t.opened = s.opened ∧ s.nw ≤ t.nw := by
  cases hm
  case notify => exact ⟨rfl, rfl, rfl, Nat.le_succ _⟩
  all_goals exact ⟨rfl, rfl, rfl, Nat.le_refl _⟩

end

/-! ## Preservation -/

section
variable {c : Cfg} {s t u : State} {i : Nat} {p' : HPc}

theorem invW_init : InvW init := by intro j _; rfl

theorem invW_wstep {l : WLabel} (hw : InvW s) (hl : wstep c s l = some t) : InvW t := by
  obtain ⟨hh, hn, -⟩ := (wstep_move hl).frame
  intro j hj
  rw [hh]; exact hw j (hn ▸ hj)

theorem invW_hstep {l : HLabel} (hw : InvW s) (hl : hstep c s i l = some t) : InvW t := by
  obtain ⟨p', u, hm, rfl⟩ := hstep_move hl
  obtain ⟨hn, hi⟩ := hm.alloc
  intro j hj
  have hj' := hw j (Nat.le_trans hn hj)
  by_cases hji : j = i
  · subst hji; exact absurd (hi hj') (Nat.not_lt.2 hj)
  · exact (upd_other _ _ hji).trans hj'

theorem Queued.upd {P : HPc → Bool}
    (keep : s.chan = true ∨ P (s.h i) = true → u.chan = true ∨ P p' = true) (q : Queued P s) :
    Queued P { u with h := upd s.h i p' } := by
  rcases q with h | ⟨j, hj⟩
  · exact (keep (.inl h)).imp_right anyH_upd_self
  · by_cases hji : j = i
    · exact (keep (.inr (hji ▸ hj))).imp_right anyH_upd_self
    · exact .inr ⟨j, (congrArg P (upd_other _ _ hji)).trans hj⟩

theorem invB_init : InvB init := by
  constructor <;> simp [init]

theorem invB_hstep {l : HLabel} (hw : InvW s) (hi : InvB s) (hl : hstep c s i l = some t) : InvB t := by
  obtain ⟨p', u, hm, rfl⟩ := hstep_move hl
  obtain ⟨hwpc, -, -, hsnap, hlast⟩ := hm.frame
  obtain ⟨hrt, hlatest, -⟩ := hm.writes
  have keepW := Queued.upd (u := u) (hm.keeps_willSend (hw i))
  have keepS := Queued.upd (u := u) (hm.keeps_sendSoon (hw i))
  have mine {P : HPc → Bool} (h : P p' = true) : Queued P { u with h := upd s.h i p' } :=
    .inr (anyH_upd_self h)
  refine ⟨fun h => ?_, fun h => ?_, ?_⟩
  · rw [hwpc]
    exact (hrt h).elim (fun h => (hi.rt h).imp_right keepS) fun h => .inr (mine h)
  · rw [hwpc] at h; rw [hsnap]
    exact hlatest.elim (fun e => e ▸ (hi.snap h).imp_right keepW) fun h => .inr (mine h)
  · rw [hwpc, hlast]
    exact hlatest.elim (fun e => e ▸ hi.last.imp_right (.imp_right keepW)) fun h => .inr (.inr (mine h))

theorem invB_wstep {l : WLabel} (hc : c.clearAtRecv = true) (hi : InvB s) (hl : wstep c s l = some t) :
    InvB t := by
  obtain ⟨hrt, hsnap, hlast⟩ := hi
  -- outside `clrRtRecv` a raised `retrigger_compilation` is vouched for by a handler about to send
  have rt {w w' : WPc} (hw : s.wpc = w) (hne : w ≠ .clrRtRecv) (h : s.rt = true) :
      w' = .clrRtRecv ∨ Queued HPc.sendSoon s :=
    .inr ((hrt h).resolve_left (hw ▸ hne))
  -- outside the compilation proper, before and after
  have last {w : WPc} (hw : s.wpc = w) (hn : w.compiling = false) :
      s.lastDone = s.latest ∨ false = true ∨ Queued HPc.willSend s :=
    hlast.imp_right (.imp_left fun h => by rw [hw, hn] at h; cases h)
  cases wstep_move hl
  case recv => rw [if_pos hc]; exact ⟨fun _ => .inl rfl, nofun, .inr (.inl rfl)⟩
  case clrRtRecv => exact ⟨nofun, nofun, .inr (.inl rfl)⟩
  case clrRt hw => exact ⟨nofun, nofun, last hw rfl⟩
  case setIc hw | start hw => exact ⟨rt hw nofun, nofun, .inr (.inl rfl)⟩
  case chk0 hw =>
    split
    · -- the compilation is aborted: the handler that raised `retrigger_compilation` is about to send
      next h =>
      have q := (hrt h).resolve_left (hw ▸ nofun)
      exact ⟨fun _ => .inr q, nofun, .inr (.inr q.sendSoon_willSend)⟩
    · exact ⟨rt hw nofun, nofun, .inr (.inl rfl)⟩
  case chk rd hw =>
    split
    · next h =>
      have q := (hrt h).resolve_left (hw ▸ nofun)
      exact ⟨fun _ => .inr q, nofun, .inr (.inr q.sendSoon_willSend)⟩
    · exact ⟨rt hw nofun, fun h => hsnap (h.imp hw.trans nofun), .inr (.inl rfl)⟩
  case read hw => exact ⟨rt hw nofun, fun _ => .inl rfl, .inr (.inl rfl)⟩
  case finish hw => exact ⟨rt hw nofun, fun _ => hsnap (.inl hw), .inr (.inl rfl)⟩
  case lsDone hw => exact ⟨rt hw nofun, nofun, (hsnap (.inr hw)).imp_right .inr⟩
  case lsAbort hw | notify hw => exact ⟨rt hw nofun, nofun, last hw rfl⟩
  case clrIc hw | isEmpty hw => split <;> exact ⟨rt hw nofun, nofun, last hw rfl⟩

theorem invA_init : InvA init := by
  constructor <;> simp [init, HPc.sn?, HPc.foreign]

/-- The worker hands every obligation on: taking a request out of the channel puts it at a program
counter that vouches for `is_compiling` and `last_compilation_state`, and it returns to `recv`
only past a full channel or a `notify_waiters`. -/
theorem WMove.keeps {l : WLabel} (hm : WMove c s l t)
    (hic : s.ic = true → s.wpc.pre = true ∨ Queued HPc.willSend s)
    (hls : s.opened = true → s.ls ≠ .uninit ∨ s.wpc.preLs = true ∨ Queued HPc.willSend s) :
    (t.ic = true → t.wpc.pre = true ∨ Queued HPc.willSend t) ∧
    (t.opened = true → t.ls ≠ .uninit ∨ t.wpc.preLs = true ∨ Queued HPc.willSend t) ∧
    (s.nw < t.nw ∨ Pend t) := by
  -- past its window an obligation rests on the queue alone
  have ic {w : WPc} (hw : s.wpc = w) (hn : w.pre = false) (h : s.ic = true) :
      false = true ∨ Queued HPc.willSend s :=
    (hic h).imp_left fun h => by rw [hw, hn] at h; cases h
  have ls {w : WPc} (hw : s.wpc = w) (hn : w.preLs = false) (h : s.opened = true) :
      s.ls ≠ .uninit ∨ false = true ∨ Queued HPc.willSend s :=
    (hls h).imp_right (.imp_left fun h => by rw [hw, hn] at h; cases h)
  cases hm
  case clrRtRecv | setIc | start | read | finish =>
    exact ⟨fun _ => .inl rfl, fun _ => .inr (.inl rfl), .inr (.inl nofun)⟩
  case recv | chk0 | chk =>
    split <;> exact ⟨fun _ => .inl rfl, fun _ => .inr (.inl rfl), .inr (.inl nofun)⟩
  case lsAbort => exact ⟨fun _ => .inl rfl, fun _ => .inl nofun, .inr (.inl nofun)⟩
  case lsDone ok _ => cases ok <;> exact ⟨fun _ => .inl rfl, fun _ => .inl nofun, .inr (.inl nofun)⟩
  case clrIc hw => split <;> exact ⟨nofun, ls hw rfl, .inr (.inl nofun)⟩
  case clrRt hw => exact ⟨ic hw rfl, ls hw rfl, .inr (.inl nofun)⟩
  case isEmpty hw =>
    split
    · next h => exact ⟨ic hw rfl, ls hw rfl, .inr (.inr (.inl h))⟩
    · exact ⟨ic hw rfl, ls hw rfl, .inr (.inl nofun)⟩
  case notify hw => exact ⟨ic hw rfl, ls hw rfl, .inl (Nat.lt_succ_self _)⟩

theorem invA_wstep {l : WLabel} (hi : InvA s) (hl : wstep c s l = some t) : InvA t := by
  have hm := wstep_move hl
  obtain ⟨hh, -, hop, hnw⟩ := hm.frame
  obtain ⟨hic, hls, hwait⟩ := hm.keeps hi.ic hi.ls
  exact ⟨hh ▸ hi.noLate, hic, hls, hh ▸ hop ▸ hi.opened,
    fun i sn h => Nat.le_trans (hi.snapLe i sn (hh ▸ h)) hnw,
    fun i sn h => hwait.imp_left (Nat.lt_of_le_of_lt (hi.snapLe i sn (by rw [← hh, h]; rfl)))⟩

theorem WPc.pre_ne_idle {w : WPc} (h : w.pre = true) : w ≠ .idle := by rintro rfl; cases h
theorem WPc.preLs_ne_idle {w : WPc} (h : w.preLs = true) : w ≠ .idle := by rintro rfl; cases h

theorem invA_hstep {l : HLabel} (hc1 : c.notifiedFirst = true) (hc2 : c.openStoreFirst = true)
    (hc3 : c.openedFirst = true) (hc4 : c.openStoreEarly = false)
    (hw : InvW s) (hi : InvA s) (hl : hstep c s i l = some t) : InvA t := by
  obtain ⟨p', u, hm, rfl⟩ := hstep_move hl
  obtain ⟨hwpc, hnw, hls, -⟩ := hm.frame
  obtain ⟨-, -, hic, hopen, hmono⟩ := hm.writes
  replace hic := hic (hi.noLate i)
  replace hopen := hopen hc4
  obtain ⟨hfor, hpres, hwt⟩ := hm.mover hc1 hc2 hc3 hc4
  have keep := Queued.upd (u := u) (hm.keeps_willSend (hw i))
  have mine (h : p'.willSend = true) : Queued HPc.willSend { u with h := upd s.h i p' } :=
    .inr (anyH_upd_self h)
  have pend : Pend s → Pend { u with h := upd s.h i p' } := fun h => by
    rw [Pend, hwpc]; exact h.imp_right keep
  refine ⟨fun j => ?_, fun h => ?_, fun h => ?_, fun j hj => ?_, fun j sn hj => ?_, fun j sn hj => ?_⟩
  · by_cases hji : j = i
    · subst hji; exact (congrArg HPc.foreign (upd_same ..)).trans hfor
    · exact (congrArg HPc.foreign (upd_other _ _ hji)).trans (hi.noLate j)
  · rw [hwpc]
    exact (hic h).elim (fun h => (hi.ic h).imp_right keep) fun h => .inr (mine h)
  · rw [hwpc, hls]
    exact (hopen h).elim (fun h => (hi.ls h).imp_right (.imp_right keep)) fun h => .inr (.inr (mine h))
  · by_cases hji : j = i
    · subst hji; exact hpres.elim (fun h => hmono (hi.opened j h)) id
    · exact hmono (hi.opened j (upd_other s.h p' hji ▸ hj))
  · rw [hnw]
    by_cases hji : j = i
    · subst hji
      exact (hwt sn (upd_same s.h j p' ▸ hj)).1.elim (hi.snapLe j sn) fun h => h ▸ Nat.le_refl _
    · exact hi.snapLe j sn (upd_other s.h p' hji ▸ hj)
  · rw [hnw]
    by_cases hji : j = i
    · subst hji
      have hj : p' = .pAwait sn := upd_same s.h j p' ▸ hj
      obtain ⟨hp, h | h | h⟩ := (hwt sn (hj ▸ rfl)).2 hj
      · exact .inr (pend ((hi.ic h).imp_left WPc.pre_ne_idle))
      · exact .inr (pend ((hi.ls (hi.opened j hp)).elim (absurd h) (.imp_left WPc.preLs_ne_idle)))
      · exact .inr (pend (.inr (.inl h)))
    · exact (hi.wait j sn (upd_other s.h p' hji ▸ hj)).imp_right pend

end

/-! ## Reachable states satisfy the invariants -/

theorem reach_invW {c : Cfg} {s : State} (h : Reachable c s) : InvW s := by
  induction h with
  | init => exact invW_init
  | step _ hs ih =>
    rcases hs with ⟨l, hl⟩ | ⟨i, l, hl⟩
    · exact invW_wstep ih hl
    · exact invW_hstep ih hl

theorem reach_invA {c : Cfg} {s : State} (hc1 : c.notifiedFirst = true)
    (hc2 : c.openStoreFirst = true) (hc3 : c.openedFirst = true) (hc4 : c.openStoreEarly = false)
    (h : Reachable c s) : InvA s := by
  induction h with
  | init => exact invA_init
  | step hr hs ih =>
    rcases hs with ⟨l, hl⟩ | ⟨i, l, hl⟩
    · exact invA_wstep ih hl
    · exact invA_hstep hc1 hc2 hc3 hc4 (reach_invW hr) ih hl

theorem reach_invB {c : Cfg} {s : State} (hc : c.clearAtRecv = true) (h : Reachable c s) :
    InvB s := by
  induction h with
  | init => exact invB_init
  | step hr hs ih =>
    rcases hs with ⟨l, hl⟩ | ⟨i, l, hl⟩
    · exact invB_wstep hc ih hl
    · exact invB_hstep (reach_invW hr) ih hl

/-! ## Quiescence -/

theorem quiet_not_willSend {p : HPc} {nw : Nat} (h : p.quiet nw = true) : p.willSend = false := by
  cases p <;> simp_all [HPc.quiet, HPc.willSend]

theorem Quiescent.not_queued {s : State} (q : Quiescent s) : ¬ Queued HPc.willSend s := by
  rintro (h | ⟨i, hi⟩)
  · rw [q.2.1] at h; cases h
  · rw [quiet_not_willSend (q.2.2 i)] at hi; cases hi

theorem Quiescent.not_pend {s : State} (q : Quiescent s) : ¬ Pend s :=
  fun h => h.elim (absurd q.1) q.not_queued

theorem quiescent_of_quiescentB {s : State} (hw : InvW s) (h : quiescentB s = true) : Quiescent s := by
  simp only [quiescentB, Bool.and_eq_true, decide_eq_true_eq, Bool.not_eq_true', List.all_eq_true,
    List.mem_range] at h
  refine ⟨h.1.1, h.1.2, fun i => ?_⟩
  by_cases hi : i < s.n
  · exact h.2 i hi
  · rw [hw i (by omega)]; rfl

theorem waiting_of_waitingB {s : State} (h : 0 < waitingB s) : ∃ i, Waiting s i := by
  unfold waitingB at h
  obtain ⟨i, hi⟩ := List.exists_mem_of_length_pos h
  have hi := (List.mem_filter.mp hi).2
  split at hi
  · exact ⟨i, _, ‹_›⟩
  · cases hi

/-! ## `Quiescent` is the right notion -/

theorem HMove.not_quiet {c : Cfg} {s u : State} {i : Nat} {l : HLabel} {p p' : HPc} (hm : HMove c s i p l p' u)
    (hl : ∀ k v, l ≠ .spawn k v) : p.quiet s.nw = false := by
  cases hm
  case spawn k v _ _ => exact absurd rfl (hl k v)
  case wake sn h => exact beq_eq_false_iff_ne.2 (Ne.symm h)
  all_goals rfl

/-- `Quiescent` says exactly that nothing can happen except the arrival of a new client event. -/
theorem quiescent_iff_only_spawn {c : Cfg} {s : State} :
    Quiescent s ↔ (∀ l, wstep c s l = none) ∧ (∀ i l, (∀ k v, l ≠ .spawn k v) → hstep c s i l = none) := by
  constructor
  · rintro ⟨hw, hc, hq⟩
    refine ⟨fun l => Option.eq_none_iff_forall_ne_some.2 fun t hl => ?_,
      fun i l hl => Option.eq_none_iff_forall_ne_some.2 fun t ht => ?_⟩
    · -- the worker is in `recv` and the channel is empty
      cases wstep_move hl
      case recv h => rw [hc] at h; cases h
      all_goals (rename_i h; rw [hw] at h; cases h)
    · obtain ⟨p', u, hm, -⟩ := hstep_move ht
      exact absurd (hq i) (by rw [hm.not_quiet hl]; nofun)
  · rintro ⟨hw, hh⟩
    have hidle : s.wpc = .idle := by
      cases hp : s.wpc
      case idle => rfl
      case clrRtRecv | clrRt => have := hw .clrRt; simp [wstep, hp] at this
      case setIc => have := hw .setIc; simp [wstep, hp] at this
      case start => have := hw .start; simp [wstep, hp] at this
      case chk0 | comp => have := hw .chk; simp [wstep, hp] at this
      case aborted => have := hw .lsAbort; simp [wstep, hp] at this
      case fin => have := hw (.lsDone true); simp [wstep, hp] at this
      case clrIc => have := hw .clrIc; simp [wstep, hp] at this
      case empty => have := hw .isEmpty; simp [wstep, hp] at this
      case notify => have := hw .notify; simp [wstep, hp] at this
    have hchan : s.chan = false := by simpa [wstep, hidle] using hw .recv
    refine ⟨hidle, hchan, fun i => ?_⟩
    have stuck (l : HLabel) (hl : ∀ k v, l ≠ .spawn k v := by intro k v; simp) := hh i l hl
    cases hp : s.h i
    case absent | done => rfl
    case pAwait sn =>
      have := stuck .wake
      simp [hstep, hp] at this
      simp [HPc.quiet, this]
    case hInit k v =>
      cases v
      · have := stuck .fail; simp [hstep, hp] at this
      · have := stuck .lookup; simp [hstep, hp] at this
    case oSetIcEarly | oSetIc | oSetIcLate => have := stuck .setIc; simp [hstep, hp] at this
    case cWrite => have := stuck .write; simp [hstep, hp] at this
    case sLoadIc k => have := stuck .loadIc; simp [hstep, hp] at this
    case sStoreRt k => have := stuck .storeRt; simp [hstep, hp] at this
    case sFull k => have := stuck .isFull; simp [hstep, hp] at this
    case sDrain k => have := stuck .tryRecv; simp [hstep, hp, hchan] at this
    case sSend k => have := stuck .send; simp [hstep, hp, hchan] at this
    case pSnap => have := stuck .snap; simp [hstep, hp] at this
    case pLoadIc sn => have := stuck .pLoadIc; simp [hstep, hp] at this
    case pReadLs sn => have := stuck .readLs; simp [hstep, hp] at this
    case pEmpty sn => have := stuck .pIsEmpty; simp [hstep, hp] at this

/-! ## Schedules -/

theorem act_step {c : Cfg} {s t : State} {a : Act} (h : act c s a = some t) : Step c s t := by
  cases a with
  | w l => exact Or.inl ⟨l, h⟩
  | h i l => exact Or.inr ⟨i, l, h⟩

theorem run_reachable {c : Cfg} {as : List Act} {s t : State} (hs : Reachable c s)
    (h : run c s as = some t) : Reachable c t := by
  induction as generalizing s with
  | nil => simp only [run, Option.some.injEq] at h; exact h ▸ hs
  | cons a as ih =>
    simp only [run] at h
    split at h
    · next u hu => exact ih (Reachable.step hs (act_step hu)) h
    · cases h

def checkRun (c : Cfg) (as : List Act) (P : State → Bool) : Bool :=
  match run c init as with
  | some t => P t
  | none => false

theorem checkRun_quiescent {c : Cfg} {as : List Act} {P : State → Bool}
    (h : checkRun c as (fun t => quiescentB t && P t) = true) :
    ∃ s, Reachable c s ∧ Quiescent s ∧ P s = true := by
  unfold checkRun at h
  split at h
  · next t ht =>
    have hr := run_reachable Reachable.init ht
    have h := Bool.and_eq_true_iff.1 h
    exact ⟨t, hr, quiescent_of_quiescentB (reach_invW hr) h.1, h.2⟩
  · cases h

/-! ## Splitting a step by search -/

/-- On `hl : … = some t` with the step function unfolded: split twice, close the branches that are `none`,
substitute the successor state in the others. -/
macro "step_cases" hl:ident : tactic => `(tactic| (
  all_goals (try split at $hl:ident)
  all_goals (try split at $hl:ident)
  all_goals (first | (cases $hl:ident; done) | skip)
  all_goals (cases $hl:ident)))

/-- Search-based treatment of one handler label: split the step, then `simp_all` / `grind` on every clause of
a destructured `InvA` (`h1`–`h6`; `hw : InvW s`). No proof calls it. The names `anyH_upd` and `anyH_split` in
its `simp only` sets are not defined; both uses are under `try`. -/
macro "inv_a_handler" hl:ident h1:ident h2:ident h3:ident h4:ident h5:ident h6:ident hw:ident i:ident : tactic =>
  `(tactic| (
  have hwi := $hw $i
  have h1i := $h1 $i
  have h4i := $h4 $i
  have h5i := $h5 $i
  have h6i := $h6 $i
  simp only [hstep] at $hl:ident
  step_cases $hl
  all_goals (refine ⟨fun j => ?_, ?_, ?_, fun j => ?_, fun j sn => ?_, fun j sn => ?_⟩)
  all_goals (try (by_cases hji : $i = j))
  all_goals (try subst hji)
  all_goals (try (have hji' : j ≠ $i := fun h => hji h.symm))
  all_goals (try simp only [anyH_upd, Pend])
  all_goals (try simp only [anyH_split $i, Pend] at $h2:ident $h3:ident $h6:ident h6i ⊢)
  all_goals (first | (simp_all [WPc.pre, WPc.preLs, HPc.willSend, HPc.foreign, HPc.sn?, upd_other]; done) | skip)
  all_goals (first | (grind [WPc.pre, WPc.preLs, HPc.willSend, HPc.foreign, HPc.sn?, upd_other, upd_same, spawnPc, afterLookup, afterSend, waitStart, goWait]; done) | skip)
  all_goals (simp only [upd_same]; (try unfold spawnPc); (try unfold afterLookup); (try unfold afterSend); split <;>
    simp_all [waitStart, HPc.sn?, HPc.willSend, HPc.foreign])))

end SwayVerif.LspSched
