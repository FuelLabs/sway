import SwayVerif.Model.Lexer
/-! The vocabulary in which the lexer of `Model/Lexer.lean` is specified (C16). `Bd text p`: byte offset `p` is a
char boundary, i.e. the length of a prefix. `Suf text pos rest`: the stream stands at `pos` with `rest` to read.
`Adv`: a stream reached from another by consuming characters. `SpanOK text a b`: both ends are boundaries, in
order, which is what `text.get(a..b)` needs. `SubOK`: what a sub-lexer promises of its result. -/
namespace SwayVerif.Lexer

/-! ## Byte lengths -/

theorem u8len_pos (c : Char) : 0 < u8len c :=
  iteInduction (motive := (0 < ·)) (fun _ => by decide) fun _ =>
  iteInduction (motive := (0 < ·)) (fun _ => by decide) fun _ =>
  iteInduction (motive := (0 < ·)) (fun _ => by decide) fun _ => by decide

theorem u8len_ascii {c : Char} (h : c.toNat < 128) : u8len c = 1 := by
  unfold u8len
  have : c.val.toNat = c.toNat := rfl
  rw [this]
  simp [h]

theorem u8len_slash : u8len '/' = 1 := by decide
theorem u8len_bang : u8len '!' = 1 := by decide
theorem u8len_star : u8len '*' = 1 := by decide
theorem u8len_u : u8len 'u' = 1 := by decide

@[simp] theorem blen_nil : blen [] = 0 := rfl
@[simp] theorem blen_cons (x : CC) (xs : List CC) : blen (x :: xs) = u8len x.c + blen xs := rfl

theorem blen_append (a b : List CC) : blen (a ++ b) = blen a + blen b := by
  induction a with
  | nil => simp
  | cons c cs ih => simp [ih, Nat.add_assoc]

/-! ## Char boundaries -/

def Bd (text : List CC) (p : Nat) : Prop := ∃ pre suf, text = pre ++ suf ∧ blen pre = p

theorem isBoundary_zero (text : List CC) : isBoundary text 0 = true := by
  cases text <;> rfl

theorem isBoundary_cons_succ (x : CC) (xs : List CC) (n : Nat) :
    isBoundary (x :: xs) (n + 1) = if n + 1 < u8len x.c then false else isBoundary xs (n + 1 - u8len x.c) := rfl

theorem isBoundary_iff (text : List CC) (p : Nat) : isBoundary text p = true ↔ Bd text p := by
  constructor
  · intro h
    induction text generalizing p with
    | nil =>
      cases p with
      | zero => exact ⟨[], [], rfl, rfl⟩
      | succ n => simp [isBoundary] at h
    | cons x xs ih =>
      cases p with
      | zero => exact ⟨[], x :: xs, rfl, rfl⟩
      | succ n =>
        rw [isBoundary_cons_succ] at h
        split at h
        · simp at h
        · rename_i hlt
          obtain ⟨pre, suf, h1, h2⟩ := ih _ h
          refine ⟨x :: pre, suf, by simp [h1], ?_⟩
          simp [h2]; omega
  · rintro ⟨pre, suf, h1, h2⟩
    subst h1
    induction pre generalizing p with
    | nil => simp at h2; subst h2; exact isBoundary_zero _
    | cons x pre ih =>
      have hx := u8len_pos x.c
      simp at h2
      cases p with
      | zero => omega
      | succ n =>
        rw [List.cons_append, isBoundary_cons_succ]
        have : ¬ (n + 1 < u8len x.c) := by omega
        rw [if_neg this]
        exact ih _ (by omega)

theorem Bd.zero (text : List CC) : Bd text 0 := ⟨[], text, rfl, rfl⟩

theorem Bd.len (text : List CC) : Bd text (blen text) := ⟨text, [], by simp, rfl⟩

theorem Bd.le_len {text : List CC} {p : Nat} (h : Bd text p) : p ≤ blen text := by
  obtain ⟨pre, suf, h1, h2⟩ := h
  subst h1; rw [blen_append]; omega

def SpanOK (text : List CC) (a b : Nat) : Prop := Bd text a ∧ Bd text b ∧ a ≤ b

theorem validSpan_iff (text : List CC) (a b : Nat) : validSpan text a b = true ↔ SpanOK text a b := by
  unfold validSpan SpanOK
  simp only [Bool.and_eq_true, decide_eq_true_eq, isBoundary_iff]
  constructor
  · rintro ⟨⟨h1, h2⟩, h3⟩; exact ⟨h2, h3, h1⟩
  · rintro ⟨h1, h2, h3⟩; exact ⟨⟨h3, h1⟩, h2⟩

theorem walkBack_le (text : List CC) (n : Nat) : walkBack text n ≤ n := by
  induction n with
  | zero => simp [walkBack]
  | succ n ih =>
    unfold walkBack
    split
    · omega
    · omega

theorem walkBack_bd (text : List CC) (n : Nat) : Bd text (walkBack text n) := by
  induction n with
  | zero => exact Bd.zero _
  | succ n ih =>
    unfold walkBack
    split
    · rename_i h; exact (isBoundary_iff _ _).1 h
    · exact ih

theorem walkBack_ge {text : List CC} {b n : Nat} (hb : Bd text b) (hle : b ≤ n) : b ≤ walkBack text n := by
  induction n with
  | zero => omega
  | succ n ih =>
    unfold walkBack
    split
    · exact hle
    · rename_i h
      have : b ≠ n + 1 := by
        intro e; subst e; exact h ((isBoundary_iff _ _).2 hb)
      exact ih (by omega)

theorem walkBack_span {text : List CC} {a n : Nat} (ha : Bd text a) (hle : a ≤ n) : SpanOK text a (walkBack text n) :=
  ⟨ha, walkBack_bd _ _, walkBack_ge ha hle⟩

theorem SpanOK.to_len {text : List CC} {a : Nat} (ha : Bd text a) : SpanOK text a (blen text) :=
  ⟨ha, Bd.len _, ha.le_len⟩

/-! ## Streams -/

def Suf (text : List CC) (pos : Nat) (rest : List CC) : Prop := ∃ pre, text = pre ++ rest ∧ blen pre = pos

def Adv (p : Nat) (r : List CC) (p' : Nat) (r' : List CC) : Prop := ∃ mid, r = mid ++ r' ∧ p' = p + blen mid

theorem Suf.init (text : List CC) : Suf text 0 text := ⟨[], rfl, rfl⟩

theorem Suf.bd {text : List CC} {p : Nat} {r : List CC} (h : Suf text p r) : Bd text p := by
  obtain ⟨pre, h1, h2⟩ := h; exact ⟨pre, r, h1, h2⟩

theorem Suf.total {text : List CC} {p : Nat} {r : List CC} (h : Suf text p r) : p + blen r = blen text := by
  obtain ⟨pre, h1, h2⟩ := h; subst h1; rw [blen_append]; omega

theorem Suf.le {text : List CC} {p : Nat} {r : List CC} (h : Suf text p r) : p ≤ blen text := by
  have := h.total; omega

theorem Suf.nil {text : List CC} {p : Nat} (h : Suf text p []) : p = blen text := by
  have := h.total; simp at this; exact this

theorem Suf.adv {text : List CC} {p p' : Nat} {r r' : List CC} (h : Suf text p r) (a : Adv p r p' r') : Suf text p' r' := by
  obtain ⟨pre, h1, h2⟩ := h
  obtain ⟨mid, h3, h4⟩ := a
  exact ⟨pre ++ mid, by rw [h1, h3, List.append_assoc], by rw [blen_append, h2, h4]⟩

theorem Suf.lt_len {text : List CC} {p : Nat} {x : CC} {r : List CC} (h : Suf text p (x :: r)) : p + u8len x.c ≤ blen text := by
  have := h.total; simp at this; omega

theorem Adv.refl (p : Nat) (r : List CC) : Adv p r p r := ⟨[], rfl, rfl⟩

theorem Adv.trans {p p' p'' : Nat} {r r' r'' : List CC} (a : Adv p r p' r') (b : Adv p' r' p'' r'') : Adv p r p'' r'' := by
  obtain ⟨m1, h1, h2⟩ := a
  obtain ⟨m2, h3, h4⟩ := b
  exact ⟨m1 ++ m2, by rw [h1, h3, List.append_assoc], by rw [blen_append, h4, h2]; omega⟩

theorem Adv.cons (p : Nat) (x : CC) (r : List CC) : Adv p (x :: r) (p + u8len x.c) r := ⟨[x], rfl, by simp⟩

theorem Adv.cons2 (p : Nat) (x y : CC) (r : List CC) : Adv p (x :: y :: r) (p + u8len x.c + u8len y.c) r :=
  ⟨[x, y], rfl, by simp; omega⟩

theorem Adv.le {p p' : Nat} {r r' : List CC} (a : Adv p r p' r') : p ≤ p' := by
  obtain ⟨m, _, h⟩ := a; omega

theorem Adv.length_le {p p' : Nat} {r r' : List CC} (a : Adv p r p' r') : r'.length ≤ r.length := by
  obtain ⟨m, h, _⟩ := a; subst h; simp

theorem Suf.cons {text : List CC} {p : Nat} {x : CC} {r : List CC} (h : Suf text p (x :: r)) : Suf text (p + u8len x.c) r :=
  h.adv (Adv.cons p x r)

/-- Under the stream invariant, `span_until` ends exactly at the stream position. -/
theorem peekPos_eq {text : List CC} {p : Nat} {r : List CC} (h : Suf text p r) : peekPos p r (blen text) = p := by
  cases r with
  | nil => simp [peekPos, h.nil]
  | cons x r => rfl

theorem SpanOK.of_suf {text : List CC} {a p : Nat} {r : List CC} (ha : Bd text a) (h : Suf text p r) (hle : a ≤ p) : SpanOK text a p :=
  ⟨ha, h.bd, hle⟩

/-! ## Simple scanners -/

theorem skipWhile_adv (p : CC → Bool) (r : List CC) (pos : Nat) :
    Adv pos r (skipWhile p r pos).1 (skipWhile p r pos).2 := by
  induction r generalizing pos with
  | nil => exact Adv.refl _ _
  | cons x r ih =>
    unfold skipWhile
    split
    · exact (Adv.cons _ _ _).trans (ih _)
    · exact Adv.refl _ _

theorem findNl_spec {text : List CC} {r : List CC} {pos : Nat} (h : Suf text pos r) :
    Adv pos r (findNl r pos).2.1 (findNl r pos).2.2 ∧
    Bd text ((findNl r pos).1.getD (blen text)) ∧ pos ≤ (findNl r pos).1.getD (blen text) ∧
    (findNl r pos).1.getD (blen text) ≤ (findNl r pos).2.1 := by
  induction r generalizing pos with
  | nil => exact ⟨Adv.refl _ _, Bd.len _, h.le, Nat.le_of_eq h.nil.symm⟩
  | cons x r ih =>
    unfold findNl
    split
    · exact ⟨Adv.cons _ _ _, h.bd, Nat.le_refl _, Nat.le_add_right _ _⟩
    · obtain ⟨a, b, c, d⟩ := ih h.cons
      exact ⟨(Adv.cons _ _ _).trans a, b, Nat.le_trans (Nat.le_add_right _ _) c, d⟩

theorem parseDigits_spec {text : List CC} (radix : Nat) {r : List CC} {pos : Nat} (v : Nat) (h : Suf text pos r) :
    Adv pos r (parseDigits radix r pos v).2.2.1 (parseDigits radix r pos v).2.2.2 ∧
    (parseDigits radix r pos v).2.1.getD (blen text) = (parseDigits radix r pos v).2.2.1 := by
  induction r generalizing pos v with
  | nil => exact ⟨Adv.refl _ _, h.nil.symm⟩
  | cons x r ih =>
    unfold parseDigits
    split
    · exact ⟨(Adv.cons _ _ _).trans (ih v h.cons).1, (ih v h.cons).2⟩
    · split
      · exact ⟨Adv.refl _ _, rfl⟩
      · rename_i d _
        exact ⟨(Adv.cons _ _ _).trans (ih (v * radix + d) h.cons).1, (ih (v * radix + d) h.cons).2⟩

theorem takeSuffix_adv (r : List CC) (pos : Nat) (acc : List Char) :
    Adv pos r (takeSuffix r pos acc).1 (takeSuffix r pos acc).2.1 := by
  induction r generalizing pos acc with
  | nil => exact Adv.refl _ _
  | cons x r ih =>
    unfold takeSuffix
    split
    · exact (Adv.cons _ _ _).trans (ih _ _)
    · exact Adv.refl _ _

theorem findQuote_adv (r : List CC) (pos : Nat) (acc : List Char) :
    Adv pos r (findQuote r pos acc).2.1 (findQuote r pos acc).2.2.1 := by
  induction r generalizing pos acc with
  | nil => exact Adv.refl _ _
  | cons x r ih =>
    unfold findQuote
    split
    · exact Adv.cons _ _ _
    · exact (Adv.cons _ _ _).trans (ih _ _)

/-! ## What a sub-lexer promises -/

/-- What every sub-lexer guarantees when started on the stream `(pos, rest)` for a token that begins at `lo`. -/
structure SubOK (text : List CC) (lo pos : Nat) (rest : List CC) (r : Sub) : Prop where
  adv : Adv pos rest r.pos r.rest
  toks : ∀ t ∈ r.toks, SpanOK text t.start t.stop ∧ lo ≤ t.start ∧ t.stop ≤ r.pos
  sorted : r.toks.Pairwise (fun a b => a.stop ≤ b.start)
  errs : ∀ e ∈ r.errs, SpanOK text e.start e.stop
  aux : ∀ a ∈ r.aux, SpanOK text a.1 a.2
  bad : r.bad = false

/-- A recorded diagnostic, stated on its components so that arithmetic side goals mention plain variables. -/
theorem errs_one {text : List CC} {k : ErrKind} {a b : Nat} (h : SpanOK text a b) :
    ∀ e ∈ [LexErr.mk k a b], SpanOK text e.start e.stop :=
  List.forall_mem_singleton.2 h

theorem aux_one {text : List CC} {a b : Nat} (h : SpanOK text a b) : ∀ x ∈ [(a, b)], SpanOK text x.1 x.2 :=
  List.forall_mem_singleton.2 h

theorem SubOK.noTok {text : List CC} {lo pos : Nat} {rest : List CC} {r : Sub} (a : Adv pos rest r.pos r.rest)
    (ht : r.toks = []) (he : ∀ e ∈ r.errs, SpanOK text e.start e.stop) (ha : ∀ x ∈ r.aux, SpanOK text x.1 x.2)
    (hb : r.bad = false) : SubOK text lo pos rest r :=
  ⟨a, by simp [ht], by simp [ht], he, ha, hb⟩

theorem SubOK.oneTok {text : List CC} {lo pos : Nat} {rest : List CC} {r : Sub} {k : TokKind} {s t : Nat}
    (a : Adv pos rest r.pos r.rest) (ht : r.toks = [⟨k, s, t⟩]) (hs : SpanOK text s t) (hlo : lo ≤ s) (hhi : t ≤ r.pos)
    (he : ∀ e ∈ r.errs, SpanOK text e.start e.stop) (ha : ∀ x ∈ r.aux, SpanOK text x.1 x.2)
    (hb : r.bad = false) : SubOK text lo pos rest r :=
  ⟨a, by rw [ht]; exact List.forall_mem_singleton.2 ⟨hs, hlo, hhi⟩, by simp [ht], he, ha, hb⟩

theorem SubOK.mono {text : List CC} {lo pos p' : Nat} {rest r' : List CC} {res : Sub}
    (a : Adv pos rest p' r') (h : SubOK text lo p' r' res) : SubOK text lo pos rest res :=
  ⟨a.trans h.adv, h.toks, h.sorted, h.errs, h.aux, h.bad⟩

end SwayVerif.Lexer
