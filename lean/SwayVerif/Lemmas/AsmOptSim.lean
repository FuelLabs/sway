import SwayVerif.Lemmas.AsmOptList
import SwayVerif.Lemmas.AsmOptOp
/-!
Behaviour of op lists on the abstract machine of `Model/AsmOpt.lean`, and the proof method of C07:
a stuttering simulation (the optimised program may skip steps of the original one) gives equal
behaviour. `pos_sim` is the simulation all four checkers are proved sound with: op `i` of `P` sits at
position `f i` of `Q`, or is skipped there.
-/
namespace SwayVerif.AsmOpt
open SwayVerif.Asm

variable {V M X : Type}

/-! ### `step` from `act` -/

theorem step_none {mc : Machine V M X} {P : List AOp} {s : St V M} (h : P[s.pc]? = none) :
    step mc P s = .inr .stuck := by simp [step, h]

theorem step_fall {mc : Machine V M X} {P : List AOp} {s : St V M} {op : AOp} {r : Reg → V} {m : M}
    (h : P[s.pc]? = some op) (ha : act mc op s.regs s.mem = .fall r m) :
    step mc P s = .inl ⟨s.pc + 1, r, m⟩ := by simp [step, h, ha]

theorem step_goto_some {mc : Machine V M X} {P : List AOp} {s : St V M} {op : AOp} {l t : Nat} {r : Reg → V} {m : M}
    (h : P[s.pc]? = some op) (ha : act mc op s.regs s.mem = .goto l r m) (hl : labelIndex P l = some t) :
    step mc P s = .inl ⟨t, r, m⟩ := by simp [step, h, ha, hl]

theorem step_goto_none {mc : Machine V M X} {P : List AOp} {s : St V M} {op : AOp} {l : Nat} {r : Reg → V} {m : M}
    (h : P[s.pc]? = some op) (ha : act mc op s.regs s.mem = .goto l r m) (hl : labelIndex P l = none) :
    step mc P s = .inr .stuck := by simp [step, h, ha, hl]

theorem step_exit {mc : Machine V M X} {P : List AOp} {s : St V M} {op : AOp} {x : X} {m : M}
    (h : P[s.pc]? = some op) (ha : act mc op s.regs s.mem = .exit x m) :
    step mc P s = .inr (.exit x m) := by simp [step, h, ha]

theorem step_stuck {mc : Machine V M X} {P : List AOp} {s : St V M} {op : AOp}
    (h : P[s.pc]? = some op) (ha : act mc op s.regs s.mem = .stuck) :
    step mc P s = .inr .stuck := by simp [step, h, ha]

/-! ### `run` is monotone in the fuel, hence deterministic -/

theorem run_inl {mc : Machine V M X} {P : List AOp} {s t : St V M} (h : step mc P s = .inl t) (n : Nat) :
    run mc P (n + 1) s = run mc P n t := by rw [run, h]

theorem run_inr {mc : Machine V M X} {P : List AOp} {s : St V M} {o : Out M X}
    (h : step mc P s = .inr o) (n : Nat) : run mc P (n + 1) s = some o := by rw [run, h]

theorem run_mono {mc : Machine V M X} {P : List AOp} {n : Nat} {s : St V M} {o : Out M X}
    (h : run mc P n s = some o) (k : Nat) : run mc P (n + k) s = some o := by
  induction n generalizing s with
  | zero => cases h
  | succ n ih =>
    rw [Nat.add_right_comm]
    cases hs : step mc P s with
    | inl t => rw [run_inl hs] at h ⊢; exact ih h
    | inr o' => rw [run_inr hs] at h ⊢; exact h

theorem run_det {mc : Machine V M X} {P : List AOp} {n n' : Nat} {s : St V M} {o o' : Out M X}
    (h : run mc P n s = some o) (h' : run mc P n' s = some o') : o = o' :=
  Option.some.inj ((run_mono h n').symm.trans (Nat.add_comm n' n ▸ run_mono h' n))

/-! ### equal behaviour -/

def Behaves (mc : Machine V M X) (P : List AOp) (s : St V M) (o : Out M X) : Prop :=
  ∃ n, run mc P n s = some o

/-- Same observable behaviour: entered at op `0` with ANY registers and memory, the two op lists
end with the same outcome — the same exit value and the same final memory (`M` holds memory,
storage and the receipts/logs), or both get stuck — or both run forever (`Equiv.diverge_iff`). -/
def Equiv (mc : Machine V M X) (P Q : List AOp) : Prop :=
  ∀ r m o, Behaves mc P ⟨0, r, m⟩ o ↔ Behaves mc Q ⟨0, r, m⟩ o

theorem Equiv.refl (mc : Machine V M X) (P : List AOp) : Equiv mc P P := fun _ _ _ => Iff.rfl

theorem Equiv.trans {mc : Machine V M X} {P Q R : List AOp} (h1 : Equiv mc P Q) (h2 : Equiv mc Q R) :
    Equiv mc P R := fun r m o => (h1 r m o).trans (h2 r m o)

theorem Equiv.symm {mc : Machine V M X} {P Q : List AOp} (h : Equiv mc P Q) : Equiv mc Q P :=
  fun r m o => (h r m o).symm

theorem Equiv.diverge_iff {mc : Machine V M X} {P Q : List AOp} (h : Equiv mc P Q) (r : Reg → V) (m : M) :
    (∀ n, run mc P n ⟨0, r, m⟩ = none) ↔ (∀ n, run mc Q n ⟨0, r, m⟩ = none) := by
  have key : ∀ {P Q : List AOp}, Equiv mc P Q → (∀ n, run mc P n ⟨0, r, m⟩ = none) →
      ∀ n, run mc Q n ⟨0, r, m⟩ = none := by
    intro P Q h hp n
    cases hq : run mc Q n ⟨0, r, m⟩ with
    | none => rfl
    | some o =>
      obtain ⟨k, hk⟩ := (h r m o).2 ⟨n, hq⟩
      rw [hp k] at hk; cases hk
  exact ⟨key h, key h.symm⟩

/-! ### stuttering simulation -/

/-- Stuttering simulation: every step of `P` is matched by one step of `Q`, or by none — then `P`
moved to the next op (so this cannot go on forever). -/
structure Sim (mc : Machine V M X) (P Q : List AOp) (R : St V M → St V M → Prop) : Prop where
  out : ∀ s s' o, R s s' → step mc P s = .inr o → step mc Q s' = .inr o
  stp : ∀ s s' t, R s s' → step mc P s = .inl t →
    (∃ t', step mc Q s' = .inl t' ∧ R t t') ∨ (R t s' ∧ t.pc = s.pc + 1 ∧ s.pc < P.length)

theorem Sim.forward {mc : Machine V M X} {P Q : List AOp} {R : St V M → St V M → Prop}
    (h : Sim mc P Q R) : ∀ n s s' o, R s s' → run mc P n s = some o → ∃ n', run mc Q n' s' = some o := by
  intro n
  induction n with
  | zero => intro s s' o _ hr; cases hr
  | succ n ih =>
    intro s s' o hR hr
    cases hs : step mc P s with
    | inr o1 =>
      rw [run_inr hs] at hr
      cases hr
      exact ⟨1, run_inr (h.out s s' _ hR hs) 0⟩
    | inl t =>
      rw [run_inl hs] at hr
      rcases h.stp s s' t hR hs with ⟨t', hq, hR'⟩ | ⟨hR', _, _⟩
      · obtain ⟨n', hn'⟩ := ih t t' o hR' hr
        exact ⟨n' + 1, (run_inl hq n').trans hn'⟩
      · exact ih t s' o hR' hr

/-- `Q` cannot wait forever: each time it waits, `P` moves one op closer to the end of its list. -/
theorem Sim.backward {mc : Machine V M X} {P Q : List AOp} {R : St V M → St V M → Prop}
    (h : Sim mc P Q R) : ∀ n' s s' o, R s s' → run mc Q n' s' = some o → ∃ n, run mc P n s = some o := by
  intro n'
  induction n' with
  | zero => intro s s' o _ hr; cases hr
  | succ n' ih =>
    intro s s' o hR hr
    generalize hk : P.length - s.pc = k
    induction k using Nat.strongRecOn generalizing s with
    | ind k ihk =>
      cases hs : step mc P s with
      | inr o1 =>
        rw [run_inr (h.out s s' o1 hR hs)] at hr
        cases hr
        exact ⟨1, run_inr hs 0⟩
      | inl t =>
        rcases h.stp s s' t hR hs with ⟨t', hq, hR'⟩ | ⟨hR', hpc, hlt⟩
        · rw [run_inl hq] at hr
          obtain ⟨n, hn⟩ := ih t t' o hR' hr
          exact ⟨n + 1, (run_inl hs n).trans hn⟩
        · obtain ⟨n, hn⟩ := ihk (P.length - t.pc) (by omega) t hR' rfl
          exact ⟨n + 1, (run_inl hs n).trans hn⟩

theorem Sim.equiv {mc : Machine V M X} {P Q : List AOp} {R : St V M → St V M → Prop}
    (h : Sim mc P Q R) (h0 : ∀ r m, R ⟨0, r, m⟩ ⟨0, r, m⟩) : Equiv mc P Q :=
  fun r m o => ⟨fun ⟨n, hn⟩ => h.forward n _ _ o (h0 r m) hn, fun ⟨n, hn⟩ => h.backward n _ _ o (h0 r m) hn⟩

theorem Sim.of_step {mc : Machine V M X} {P Q : List AOp} {R : St V M → St V M → Prop}
    (h : ∀ s s', R s s' →
      (∃ o, step mc P s = .inr o ∧ step mc Q s' = .inr o) ∨
      (∃ t t', step mc P s = .inl t ∧ step mc Q s' = .inl t' ∧ R t t') ∨
      (∃ t, step mc P s = .inl t ∧ R t s' ∧ t.pc = s.pc + 1 ∧ s.pc < P.length)) : Sim mc P Q R where
  out s s' o hR hs := by
    rcases h s s' hR with ⟨o', hp, hq⟩ | ⟨t, _, hp, _⟩ | ⟨t, hp, _⟩ <;> rw [hs] at hp <;> cases hp
    exact hq
  stp s s' t hR hs := by
    rcases h s s' hR with ⟨o', hp, _⟩ | ⟨t₁, t', hp, hq, hR'⟩ | ⟨t₁, hp, hR'⟩ <;> rw [hs] at hp <;> cases hp
    · exact .inl ⟨t', hq, hR'⟩
    · exact .inr hR'

/-! ### the position-map simulation -/

/-- Op `i` of `P` is either skipped in `Q` — then it only falls through, and `f (i + 1) = f i` — or
it stands at position `f i` of `Q` as an op `q` that makes the same move, towards positions that
`f` maps alike; or (last case) it jumps to the next op where `q` falls through. `Inv i` relates the
register files on entry to op `i`. -/
theorem pos_sim (mc : Machine V M X) (P Q : List AOp) (f : Nat → Nat)
    (Inv : Nat → (Reg → V) → (Reg → V) → Prop)
    (hend : ∀ i, P[i]? = none → Q[f i]? = none)
    (hop : ∀ i op r r' m, P[i]? = some op → Inv i r r' →
      (f (i + 1) = f i ∧ ∃ r₂, act mc op r m = .fall r₂ m ∧ Inv (i + 1) r₂ r') ∨
      (f (i + 1) = f i + 1 ∧ ∃ q, Q[f i]? = some q ∧
        (ActRel (Inv (i + 1))
            (fun l r₂ r₂' => labelIndex Q l = (labelIndex P l).map f ∧
              ∀ t, labelIndex P l = some t → Inv t r₂ r₂')
            (act mc op r m) (act mc q r' m) ∨
          ∃ l r₂ r₂', act mc op r m = .goto l r₂ m ∧ labelIndex P l = some (i + 1) ∧
            act mc q r' m = .fall r₂' m ∧ Inv (i + 1) r₂ r₂'))) :
    Sim mc P Q (fun s s' => s'.pc = f s.pc ∧ s'.mem = s.mem ∧ Inv s.pc s.regs s'.regs) := by
  refine Sim.of_step fun s s' ⟨hpc, hmem, hinv⟩ => ?_
  obtain ⟨pc', regs', mem'⟩ := s'
  subst hpc hmem
  cases hp : P[s.pc]? with
  | none => exact .inl ⟨_, step_none hp, step_none (hend _ hp)⟩
  | some op =>
    rcases hop s.pc op s.regs regs' s.mem hp hinv with ⟨hf, r₂, ha, hi⟩ | ⟨hf, q, hq, hrel | hjmp⟩
    · exact .inr (.inr ⟨_, step_fall hp ha, ⟨hf.symm, rfl, hi⟩, rfl, lt_length_of_getElem? hp⟩)
    · cases ha : act mc op s.regs s.mem with
      | fall r₂ m₂ =>
        rw [ha] at hrel
        obtain ⟨r₂', ha', hi⟩ := hrel
        exact .inr (.inl ⟨_, _, step_fall hp ha, step_fall hq ha', hf.symm, rfl, hi⟩)
      | goto l r₂ m₂ =>
        rw [ha] at hrel
        obtain ⟨r₂', ha', hlq, hi⟩ := hrel
        cases hl : labelIndex P l with
        | none =>
          exact .inl ⟨_, step_goto_none hp ha hl, step_goto_none hq ha' (by rw [hlq, hl]; rfl)⟩
        | some t =>
          exact .inr (.inl ⟨_, _, step_goto_some hp ha hl,
            step_goto_some hq ha' (by rw [hlq, hl]; rfl), rfl, rfl, hi t hl⟩)
      | exit x m₂ => rw [ha] at hrel; exact .inl ⟨_, step_exit hp ha, step_exit hq hrel⟩
      | stuck => rw [ha] at hrel; exact .inl ⟨_, step_stuck hp ha, step_stuck hq hrel⟩
    · obtain ⟨l, r₂, r₂', ha, hl, ha', hi⟩ := hjmp
      exact .inr (.inl ⟨_, _, step_goto_some hp ha hl, step_fall hq ha', hf.symm, rfl, hi⟩)

theorem filter_sim (mc : Machine V M X) (P : List AOp) (ks : List Bool) (hlen : ks.length = P.length)
    (Inv : Nat → (Reg → V) → (Reg → V) → Prop)
    (hdel : ∀ i op r r' m, P[i]? = some op → ks[i]? = some false → Inv i r r' →
      ∃ r₂, act mc op r m = .fall r₂ m ∧ Inv (i + 1) r₂ r')
    (hkeep : ∀ i op r r' m, P[i]? = some op → ks[i]? = some true → Inv i r r' →
      ActRel (Inv (i + 1))
        (fun l r₂ r₂' => ∀ t, labelIndex P l = some t → ks[t]? = some true ∧ Inv t r₂ r₂')
        (act mc op r m) (act mc op r' m)) :
    Sim mc P (filterMask P ks)
      (fun s s' => s'.pc = newPos ks s.pc ∧ s'.mem = s.mem ∧ Inv s.pc s.regs s'.regs) := by
  refine pos_sim mc P _ (newPos ks) Inv (fun i hi => ?_) (fun i op r r' m hp hinv => ?_)
  · rw [filterMask_getElem? hlen (.inr (List.getElem?_eq_none_iff.1 hi)), hi]
  · obtain ⟨k, hk⟩ := getElem?_of_length hlen hp
    cases k with
    | false => exact .inl ⟨newPos_succ hk, hdel i op r r' m hp hk hinv⟩
    | true =>
      refine .inr ⟨newPos_succ hk, op, by rw [filterMask_getElem? hlen (.inl hk), hp], .inl ?_⟩
      exact (hkeep i op r r' m hp hk hinv).mono (fun _ _ _ _ h => h) fun l _ _ _ _ h =>
        ⟨labelIndex_filter hlen fun t ht => (h t ht).1, fun t ht => (h t ht).2⟩

theorem subst_sim (mc : Machine V M X) (P Q : List AOp) (hlen : Q.length = P.length)
    (Inv : Nat → (Reg → V) → (Reg → V) → Prop)
    (hlab : ∀ l, labelIndex Q l = labelIndex P l)
    (hact : ∀ (i : Nat) (op q : AOp) r r' m, P[i]? = some op → Q[i]? = some q → Inv i r r' →
      ActRel (Inv (i + 1)) (fun l r₂ r₂' => ∀ t, labelIndex P l = some t → Inv t r₂ r₂')
        (act mc op r m) (act mc q r' m) ∨
      ∃ l r₂ r₂', act mc op r m = .goto l r₂ m ∧ labelIndex P l = some (i + 1) ∧
        act mc q r' m = .fall r₂' m ∧ Inv (i + 1) r₂ r₂') :
    Sim mc P Q (fun s s' => s'.pc = s.pc ∧ s'.mem = s.mem ∧ Inv s.pc s.regs s'.regs) := by
  refine pos_sim mc P Q id Inv (fun i hi => ?_) (fun i op r r' m hp hinv => ?_)
  · exact List.getElem?_eq_none_iff.2 (hlen ▸ List.getElem?_eq_none_iff.1 hi)
  · obtain ⟨q, hq⟩ := getElem?_of_length hlen hp
    exact .inr ⟨rfl, q, hq, (hact i op q r r' m hp hq hinv).imp_left fun h =>
      h.mono (fun _ _ _ _ h => h) fun l _ _ _ _ h => ⟨by rw [hlab, Option.map_id_fun, id], h⟩⟩

end SwayVerif.AsmOpt
