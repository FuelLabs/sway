import SwayVerif.Lemmas.AsmOptOp
/-!
C07: a concrete machine that satisfies `Respects` (so the hypotheses of the theorems are
satisfiable), used for the non-vacuity examples and for the counterexample
`C07_flags_guard_insufficient` (the `def_const_registers ∩ next.use` guard of `remove_redundant_ops`
alone does not justify the deletion).

Values are naturals, the memory is a log. An op computes `val` = sum of the values it uses + its
immediate; writes `val` to its `defs`, its immediate (or 0) to its `def_const` registers; an
`other`/`call` op with a side effect appends `val` to the log; a side-effecting `rvrt`/`retcall`/
`jmpaddr` stops with `val`. The candidates of `remove_redundant_ops` only clear their `def_const`.
-/
namespace SwayVerif.AsmOpt
open SwayVerif.Asm

def demoImm (op : AOp) : Nat :=
  match op.kind with
  | .other _ (some k) => k
  | _ => 0

def demoVal (op : AOp) (r : Reg → Nat) : Nat := (op.uses.map r).foldl (· + ·) 0 + demoImm op

def demoLogs (op : AOp) : Bool :=
  op.sideEffect && !nopWf op && match op.kind with
    | .other _ _ | .call _ | .rvrt | .retcall | .jmpaddr => true
    | _ => false

def demoStops (op : AOp) : Bool :=
  op.sideEffect && !nopWf op && match op.kind with
    | .rvrt | .retcall | .jmpaddr => true
    | _ => false

def demoRegs (op : AOp) (r : Reg → Nat) : Reg → Nat := fun x =>
  if nopWf op then (if x ∈ op.defConst then 0 else r x)
  else if x ∈ op.defs then demoVal op r
  else if x ∈ op.defConst then demoImm op
  else r x

def demoSem (op : AOp) (r : Reg → Nat) (m : List Nat) : Res Nat (List Nat) Nat :=
  let m' := if demoLogs op then demoVal op r :: m else m
  if demoStops op then .exit (demoVal op r) m' else .next (demoRegs op r) m'

def demo : Machine Nat (List Nat) Nat := { sem := demoSem, isZero := fun v => v == 0 }

theorem demoVal_congr {op : AOp} {r r' : Reg → Nat} (h : ∀ x ∈ op.uses, r x = r' x) :
    demoVal op r = demoVal op r' := by
  unfold demoVal
  have : op.uses.map r = op.uses.map r' := List.map_congr_left h
  rw [this]

theorem nopWf_defs {op : AOp} (h : nopWf op = true) {x : Reg} (hx : x ∈ op.defs) : x ∈ op.uses := by
  simp only [nopWf, Bool.and_eq_true, List.all_eq_true, List.contains_eq_mem, decide_eq_true_eq] at h
  exact h.2 x hx

theorem demo_respects (amb : Reg → Bool) : Respects demo amb where
  frame := by
    intro op r m r₂ m₂ hs x hd hc _
    simp only [demo, demoSem] at hs
    split at hs
    · cases hs
    · simp only [Res.next.injEq] at hs
      rw [← hs.1]
      simp [demoRegs, hd, hc]
  reads := by
    intro op r r' m hu ha
    have hv := demoVal_congr hu
    simp only [demo, demoSem, hv]
    by_cases hst : demoStops op = true
    · simp only [hst, if_true]
      exact ⟨rfl, rfl⟩
    · simp only [hst]
      refine ⟨rfl, fun x hx => ?_⟩
      simp only [demoRegs, hv]
      by_cases hn : nopWf op = true
      · simp only [hn, if_true]
        by_cases hc : x ∈ op.defConst
        · simp [hc]
        · simp only [hc, if_false]
          rcases hx with hx | hx | hx
          · exact hu x (nopWf_defs hn hx)
          · exact absurd hx hc
          · exact ha hx.1 x hx.2
      · simp only [hn]
        by_cases hd : x ∈ op.defs
        · simp [hd]
        · by_cases hc : x ∈ op.defConst
          · simp [hd, hc]
          · simp only [hd, hc, if_false]
            rcases hx with hx | hx | hx
            · exact absurd hx hd
            · exact absurd hx hc
            · exact ha hx.1 x hx.2
  pure := by
    intro op r m hse
    exact ⟨demoRegs op r, by simp [demo, demoSem, demoLogs, demoStops, hse]⟩
  nop := by
    intro op r m hn
    refine ⟨demoRegs op r, ?_, fun x hx => by simp [demoRegs, hn, hx]⟩
    simp [demo, demoSem, demoLogs, demoStops, hn]
  moveNoop := by
    intro op r m r₂ m₂ r₃ m₃ hk hdc h2 h3
    have hl : demoLogs op = false := by simp [demoLogs, hk]
    have hs : demoStops op = false := by simp [demoStops, hk]
    have hl3 : demoLogs noopOp = false := by simp [demoLogs, noopOp]
    have hs3 : demoStops noopOp = false := by simp [demoStops, noopOp]
    simp only [demo, demoSem, hl, hs, Bool.false_eq_true, if_false, Res.next.injEq] at h2
    simp only [demo, demoSem, hl3, hs3, Bool.false_eq_true, if_false, Res.next.injEq] at h3
    refine ⟨by rw [← h2.2, ← h3.2], fun x hx => ?_⟩
    rw [← h2.1, ← h3.1]
    have himm : demoImm op = 0 := by simp [demoImm, hk]
    simp only [demoRegs, hx, hdc, himm, show nopWf noopOp = true from rfl, if_true, if_false]
    by_cases hn : nopWf op = true <;> simp [hn]

end SwayVerif.AsmOpt
