import SwayVerif.Lemmas.AsmOptSim
/-!
C07: the four checkers are sound, each by one simulation. Deleting ops (`filter_sim`): `validDelete`
(`dce`, `remove_redundant_ops`; the register files agree on the live-in set and the ambient
registers, `LiveInv`) and `validUnreach` (`simplify_cfg`; the current op is kept). Replacing ops by
`NOOP` in place (`subst_sim`): `validSeqJump` (`remove_sequential_jumps`; `LiveInv` again) and
`validMoves` (`remove_redundant_moves`; the register files agree on every register some op reads).
-/
namespace SwayVerif.AsmOpt
open SwayVerif.Asm

variable {V M X : Type}

/-! ### the liveness inequations at one op -/

theorem delOkAt_true {amb : Reg → Bool} {P : List AOp} {li lo : List RSet} {i : Nat} {op : AOp}
    (h : delOkAt amb P li lo i op true = true) :
    (∀ s ∈ flowSucc P i op.kind, ∀ x ∈ li.getD s [], x ∈ lo.getD i []) ∧
    (∀ x ∈ op.uses, x ∈ li.getD i []) ∧
    (∀ x ∈ lo.getD i [], x ∈ kills op ∨ x ∈ li.getD i []) := by
  simpa only [delOkAt, Bool.and_eq_true, List.all_eq_true, memR_iff, if_true, Bool.or_eq_true] using h

theorem delOkAt_false {amb : Reg → Bool} {P : List AOp} {li lo : List RSet} {i : Nat} {op : AOp}
    (h : delOkAt amb P li lo i op false = true) :
    (∀ s ∈ flowSucc P i op.kind, ∀ x ∈ li.getD s [], x ∈ lo.getD i []) ∧
    (∀ x ∈ lo.getD i [], x ∈ li.getD i []) ∧
    ∃ w, skipWrites op = some w ∧ ∀ x ∈ w, amb x = false ∧ x ∉ lo.getD i [] := by
  simp only [delOkAt, Bool.and_eq_true, List.all_eq_true, memR_iff, Bool.false_eq_true, if_false] at h
  obtain ⟨hflow, hlo, hw⟩ := h
  refine ⟨hflow, hlo, ?_⟩
  cases hsw : skipWrites op with
  | none => rw [hsw] at hw; cases hw
  | some w =>
    rw [hsw] at hw
    simpa only [List.all_eq_true, Bool.and_eq_true, Bool.not_eq_true', ← Bool.not_eq_true, memR_iff,
      exists_eq_left', Option.some.injEq] using hw

def LiveInv (amb : Reg → Bool) (li : List RSet) (i : Nat) (r r' : Reg → V) : Prop :=
  AgreeOn (fun x => x ∈ li.getD i [] ∨ amb x = true) r r'

theorem live_keep {mc : Machine V M X} {amb : Reg → Bool} (hR : Respects mc amb) {P : List AOp}
    {li lo : List RSet} {i : Nat} {op : AOp} (h : delOkAt amb P li lo i op true = true)
    {r r' : Reg → V} (m : M) (hinv : LiveInv amb li i r r') :
    ActRel (LiveInv amb li (i + 1)) (fun l r₂ r₂' => ∀ t, labelIndex P l = some t → LiveInv amb li t r₂ r₂')
      (act mc op r m) (act mc op r' m) := by
  obtain ⟨hflow, huse, hlo⟩ := delOkAt_true h
  have hag := act_agree hR op (fun x => x ∈ li.getD i [] ∨ amb x = true)
    (fun x => x ∈ lo.getD i [] ∨ amb x = true) r r' m
    (fun x hx => .inl (huse x hx)) (fun x hx => .inr hx)
    (fun x hx => hx.elim (fun hx => (hlo x hx).imp_right .inl) fun hx => .inr (.inr hx)) hinv
  exact hag.mono
    (fun _ _ _ ha h x hx => h x (hx.imp_left (hflow (i + 1) (act_fall_flow i ha) x)))
    (fun _ _ _ _ ha h t ht x hx => h x (hx.imp_left (hflow t (act_goto_flow i ha ht) x)))

/-! ### `validDelete` -/

theorem validDelete_spec {amb : Reg → Bool} {P : List AOp} {ks : List Bool} {li lo : List RSet}
    (h : validDelete amb P ks li lo = true) :
    ks.length = P.length ∧ ∀ (i : Nat) (op : AOp) (k : Bool), P[i]? = some op → ks[i]? = some k →
      delOkAt amb P li lo i op k = true := by
  simp only [validDelete, Bool.and_eq_true, beq_iff_eq, List.all_eq_true] at h
  exact ⟨h.1, fun i op k hp hk => h.2 _ (mem_zip3 hp hk)⟩

theorem validDelete_sound {mc : Machine V M X} {amb : Reg → Bool} (hR : Respects mc amb)
    {P : List AOp} {ks : List Bool} {li lo : List RSet}
    (h : validDelete amb P ks li lo = true) : Equiv mc P (filterMask P ks) := by
  obtain ⟨hlen, hspec⟩ := validDelete_spec h
  -- a label op is not skippable, so it is kept
  have hlab : ∀ l t, labelIndex P l = some t → ks[t]? = some true := by
    intro l t hl
    obtain ⟨opt, hpt, hkt⟩ := labelIndex_some hl
    obtain ⟨k, hkk⟩ := getElem?_of_length hlen hpt
    cases k with
    | true => exact hkk
    | false =>
      obtain ⟨_, _, w, hw, _⟩ := delOkAt_false (hspec t opt false hpt hkk)
      have := (skipWrites_some hw).1
      rw [hkt] at this
      cases this
  refine (filter_sim mc P ks hlen (LiveInv amb li) ?_ ?_).equiv
    (fun r m => ⟨(newPos_zero ks).symm, rfl, fun _ _ => rfl⟩)
  · -- a deleted op writes nothing that is live after it or ambient
    intro i op r r' m hp hk hinv
    obtain ⟨hflow, hlo, w, hsw, hw⟩ := delOkAt_false (hspec i op false hp hk)
    obtain ⟨r₂, ha, hf⟩ := skip_act hR hsw r m
    refine ⟨r₂, ha, fun x hx => ?_⟩
    have hx' : x ∈ lo.getD i [] ∨ amb x = true :=
      hx.imp_left (hflow (i + 1) (by rw [flowSucc_eq, (skipWrites_some hsw).1]; exact List.mem_singleton_self _) x)
    have hxw : x ∉ w := fun hxw =>
      hx'.elim (hw x hxw).2 fun ha => Bool.false_ne_true ((hw x hxw).1.symm.trans ha)
    rw [hf x hxw]
    exact hinv x (hx'.imp_left (hlo x))
  · intro i op r r' m hp hk hinv
    exact (live_keep hR (hspec i op true hp hk) m hinv).mono (fun _ _ _ _ h => h)
      (fun l _ _ _ _ h t ht => ⟨hlab l t ht, h t ht⟩)

theorem validDeleteAuto_sound {mc : Machine V M X} {amb : Reg → Bool} (hR : Respects mc amb)
    {P : List AOp} {ks : List Bool} (h : validDeleteAuto amb P ks = true) :
    Equiv mc P (filterMask P ks) := by
  unfold validDeleteAuto at h
  split at h
  · exact validDelete_sound hR h
  · cases h

theorem redundantOpsC_eq_some {amb : Reg → Bool} {P Q : List AOp} :
    redundantOpsC amb P = some Q ↔
      validDeleteAuto amb P (redundantOpsMask P) = true ∧ removeRedundantOps P = Q := by
  simp only [redundantOpsC, removeRedundantOps, Option.ite_none_right_eq_some, Option.some.injEq]

theorem dceC_eq_some {amb : Reg → Bool} {P Q : List AOp} :
    dceC amb P = some Q ↔
      ∃ ks, dceMask? P = some ks ∧ validDeleteAuto amb P ks = true ∧ filterMask P ks = Q := by
  unfold dceC
  cases dceMask? P with
  | none => simp only [reduceCtorEq, false_and, exists_false]
  | some ks => simp only [Option.ite_none_right_eq_some, Option.some.injEq, exists_eq_left']

/-! ### `validUnreach` -/

theorem getD_true {ks : List Bool} {s : Nat} (h : ks.getD s true = true) :
    ks[s]? = some true ∨ ks.length ≤ s := by
  rw [List.getD_eq_getElem?_getD] at h
  cases hs : ks[s]? with
  | none => exact .inr (List.getElem?_eq_none_iff.1 hs)
  | some k => rw [hs] at h; exact .inl (congrArg some h)

theorem validUnreach_spec {P : List AOp} {ks : List Bool} (h : validUnreach P ks = true) :
    ks.length = P.length ∧ (ks[0]? = some true ∨ P.length ≤ 0) ∧
    ∀ (i : Nat) (op : AOp), P[i]? = some op → ks[i]? = some true →
      ∀ s ∈ flowSucc P i op.kind, ks[s]? = some true ∨ P.length ≤ s := by
  simp only [validUnreach, Bool.and_eq_true, beq_iff_eq, List.all_eq_true, Bool.or_eq_true,
    Bool.not_eq_true'] at h
  obtain ⟨⟨hlen, h0⟩, hcl⟩ := h
  refine ⟨hlen, hlen ▸ getD_true h0, fun i op hp hk s hs => ?_⟩
  rcases hcl _ (mem_zip3 hp hk) with h' | h'
  · cases h'
  · exact hlen ▸ getD_true (h' s hs)

theorem validUnreach_sound (mc : Machine V M X) {P : List AOp} {ks : List Bool}
    (h : validUnreach P ks = true) : Equiv mc P (filterMask P ks) := by
  obtain ⟨hlen, h0, hcl⟩ := validUnreach_spec h
  refine (filter_sim mc P ks hlen
    (fun i r r' => (ks[i]? = some true ∨ P.length ≤ i) ∧ r = r') ?_ ?_).equiv
    (fun r m => ⟨(newPos_zero ks).symm, rfl, h0, rfl⟩)
  · intro i op r r' m hp hk ⟨hi, _⟩
    rcases hi with hi | hi
    · rw [hk] at hi; cases hi
    · exact absurd (lt_length_of_getElem? hp) (Nat.not_lt.2 hi)
  · intro i op r r' m hp hk ⟨_, hr⟩
    subst hr
    refine ActRel.same _ (fun r₂ m₂ ha => ⟨hcl i op hp hk _ (act_fall_flow i ha), rfl⟩)
      (fun l r₂ m₂ ha t ht => ?_)
    have hkt := (hcl i op hp hk t (act_goto_flow i ha ht)).resolve_right fun hle =>
      let ⟨_, hpt, _⟩ := labelIndex_some ht
      absurd (lt_length_of_getElem? hpt) (Nat.not_lt.2 hle)
    exact ⟨hkt, .inl hkt, rfl⟩

theorem simplifyCfgC_eq_some {P Q : List AOp} :
    simplifyCfgC P = some Q ↔
      ∃ ks, simplifyCfgMask? P = some ks ∧ validUnreach P ks = true ∧ filterMask P ks = Q := by
  unfold simplifyCfgC
  cases simplifyCfgMask? P with
  | none => simp only [reduceCtorEq, false_and, exists_false]
  | some ks => simp only [Option.ite_none_right_eq_some, Option.some.injEq, exists_eq_left']

/-! ### `validSeqJump` -/

def SeqJumpAt (P : List AOp) (i : Nat) (op : AOp) : Prop :=
  (∃ l, op.kind = .jump l ∧ labelIndex P l = some (i + 1)) ∨
  (∃ l c, op.kind = .jnz l ∧ labelIndex P l = some (i + 1) ∧ op.uses = [c])

theorem SeqJumpAt.static {P : List AOp} {i : Nat} {op : AOp} (h : SeqJumpAt P i op) :
    (∀ l, op.kind ≠ .label l) ∧ kills op = [] ∧ i + 1 ∈ flowSucc P i op.kind := by
  rw [kills_eq, flowSucc_eq]
  rcases h with ⟨l, hk, hl⟩ | ⟨l, c, hk, hl, _⟩ <;> rw [hk]
  · exact ⟨nofun, rfl, by show i + 1 ∈ (labelIndex P l).toList; rw [hl]; exact List.mem_singleton_self _⟩
  · exact ⟨nofun, rfl, List.mem_append_right _ (List.mem_singleton_self _)⟩

theorem SeqJumpAt.act {P : List AOp} {i : Nat} {op : AOp} (h : SeqJumpAt P i op)
    (mc : Machine V M X) (r : Reg → V) (m : M) :
    act mc op r m = .fall r m ∨ ∃ l, act mc op r m = .goto l r m ∧ labelIndex P l = some (i + 1) := by
  rw [act_eq]
  rcases h with ⟨l, hk, hl⟩ | ⟨l, c, hk, hl, hu⟩ <;> simp only [hk, kclass]
  · exact .inr ⟨l, rfl, hl⟩
  · simp only [hu]
    split
    · exact .inl rfl
    · exact .inr ⟨l, rfl, hl⟩

theorem seqOkAt_spec {amb : Reg → Bool} {P : List AOp} {li lo : List RSet} {i : Nat} {op q : AOp}
    (h : seqOkAt amb P li lo i op q = true) :
    delOkAt amb P li lo i op true = true ∧
    (q = op ∨ (q = noopOp ∧ SeqJumpAt P i op ∧
      ∀ x ∈ noopOp.defConst, amb x = false ∧ x ∉ li.getD (i + 1) [])) := by
  simp only [seqOkAt, Bool.and_eq_true, Bool.or_eq_true, beq_iff_eq] at h
  obtain ⟨⟨⟨hflow, huse⟩, hlo⟩, hq⟩ := h
  refine ⟨by simp only [delOkAt, if_true, Bool.and_eq_true]; exact ⟨hflow, huse, hlo⟩,
    hq.imp_right fun ⟨⟨h1, h2⟩, h3⟩ => ⟨h1, ?_, ?_⟩⟩
  · split at h2
    next l hk => exact .inl ⟨l, hk, beq_iff_eq.1 h2⟩
    next l hk =>
      rw [Bool.and_eq_true, beq_iff_eq, beq_iff_eq] at h2
      match hu : op.uses, h2.2 with
      | [c], _ => exact .inr ⟨l, c, hk, h2.1, hu⟩
    next => cases h2
  · simpa only [List.all_eq_true, Bool.and_eq_true, Bool.not_eq_true', ← Bool.not_eq_true, memR_iff]
      using h3

theorem validSeqJump_spec {amb : Reg → Bool} {P Q : List AOp} {li lo : List RSet}
    (h : validSeqJump amb P Q li lo = true) :
    Q.length = P.length ∧ ∀ (i : Nat) (op q : AOp), P[i]? = some op → Q[i]? = some q →
      seqOkAt amb P li lo i op q = true := by
  rw [validSeqJump, Bool.and_eq_true, beq_iff_eq, List.all_eq_true] at h
  exact ⟨h.1, fun i op q hp hq => h.2 ((op, q), i) (mem_zipQ hp hq)⟩

theorem validSeqJump_sound {mc : Machine V M X} {amb : Reg → Bool} (hR : Respects mc amb)
    {P Q : List AOp} {li lo : List RSet}
    (h : validSeqJump amb P Q li lo = true) : Equiv mc P Q := by
  obtain ⟨hlen, hspec⟩ := validSeqJump_spec h
  refine (subst_sim mc P Q hlen (LiveInv amb li) ?_ ?_).equiv
    (fun r m => ⟨rfl, rfl, fun _ _ => rfl⟩)
  · intro l
    refine labelIndex_congr hlen (fun i op q hp hq => ?_)
    rcases (seqOkAt_spec (hspec i op q hp hq)).2 with rfl | ⟨rfl, hj, _⟩
    · exact Iff.rfl
    · exact ⟨fun h => (hj.static.1 l h).elim, nofun⟩
  · intro i op q r r' m hp hq hinv
    obtain ⟨hd, rfl | ⟨rfl, hj, hfl⟩⟩ := seqOkAt_spec (hspec i op q hp hq)
    · exact .inl (live_keep hR hd m hinv)
    · -- a jump to the next op replaced by `NOOP`, which writes nothing live there or ambient
      obtain ⟨hflow, _, hlo⟩ := delOkAt_true hd
      obtain ⟨_, hk0, hnext⟩ := hj.static
      obtain ⟨r₃', _, ha3', hf3'⟩ := act_noop hR r' m
      have hinv' : LiveInv amb li (i + 1) r r₃' := by
        intro x hx
        have hxn : x ∉ noopOp.defConst := fun hxn =>
          hx.elim (hfl x hxn).2 fun ha => Bool.false_ne_true ((hfl x hxn).1.symm.trans ha)
        rw [hf3' x hxn]
        refine hinv x (hx.imp_left fun hx => ?_)
        exact (hlo x (hflow (i + 1) hnext x hx)).resolve_left (by rw [hk0]; exact List.not_mem_nil)
      rcases hj.act mc r m with ha | ⟨l, ha, hl⟩
      · exact .inl (by rw [ha, ha3']; exact ⟨r₃', rfl, hinv'⟩)
      · exact .inr ⟨l, r, r₃', ha, hl, ha3', hinv'⟩

theorem validSeqJumpAuto_sound {mc : Machine V M X} {amb : Reg → Bool} (hR : Respects mc amb)
    {P Q : List AOp} (h : validSeqJumpAuto amb P Q = true) : Equiv mc P Q := by
  unfold validSeqJumpAuto at h
  split at h
  · exact validSeqJump_sound hR h
  · cases h

theorem seqJumpC_eq_some {amb : Reg → Bool} {P Q : List AOp} :
    seqJumpC amb P = some Q ↔
      validSeqJumpAuto amb P (removeSequentialJumps P) = true ∧ removeSequentialJumps P = Q := by
  simp only [seqJumpC, Option.ite_none_right_eq_some, Option.some.injEq]

/-! ### `validMoves` -/

def MovesOk (amb : Reg → Bool) (P Q : List AOp) : Prop :=
  Q.length = P.length ∧ ∀ (i : Nat) (op q : AOp), P[i]? = some op → Q[i]? = some q →
    q = op ∨ (q = noopOp ∧ op.sideEffect = false ∧ op.defConst = noopOp.defConst ∧
      ∃ d, op.kind = .move ∧ op.defs = [d] ∧ d.isVirt = true ∧ amb d = false ∧ d ∉ allUses Q)

theorem validMoves_spec {amb : Reg → Bool} {P Q : List AOp} (h : validMoves amb P Q = true) :
    MovesOk amb P Q := by
  simp only [validMoves, Bool.and_eq_true, beq_iff_eq, List.all_eq_true, Bool.or_eq_true] at h
  refine ⟨h.1, fun i op q hp hq => ?_⟩
  refine (h.2 (op, q) (List.mem_of_getElem? (List.getElem?_zip_eq_some.2 ⟨hp, hq⟩))).imp_right fun ⟨⟨⟨h1, h2⟩, h2'⟩, h3⟩ => ?_
  refine ⟨h1, (Bool.not_eq_true' _).mp h2, h2', ?_⟩
  split at h3
  next d hk hd =>
    simp only [Bool.and_eq_true, Bool.not_eq_true', List.contains_eq_mem,
      decide_eq_false_iff_not] at h3
    exact ⟨d, hk, hd, h3.1.1, h3.1.2, h3.2⟩
  next => cases h3

theorem MovesOk.equiv {mc : Machine V M X} {amb : Reg → Bool} (hR : Respects mc amb)
    (hambv : ∀ x, amb x = true → x.isVirt = false) {P Q : List AOp} (h : MovesOk amb P Q) :
    Equiv mc P Q := by
  obtain ⟨hlen, hspec⟩ := h
  let S : Reg → Prop := fun x => x ∈ allUses Q ∨ x.isVirt = false
  refine (subst_sim mc P Q hlen (fun _ => AgreeOn S) ?_ ?_).equiv
    (fun r m => ⟨rfl, rfl, fun _ _ => rfl⟩)
  · intro l
    refine labelIndex_congr hlen (fun i op q hp hq => ?_)
    rcases hspec i op q hp hq with rfl | ⟨rfl, _, _, d, hk, _⟩
    · exact Iff.rfl
    · rw [hk]
      exact ⟨nofun, nofun⟩
  · intro i op q r r' m hp hq hinv
    left
    rcases hspec i op q hp hq with rfl | ⟨rfl, hse, hdc, d, hk, hd, hv, had, hnu⟩
    · exact (act_agree hR q S S r r' m (fun x hx => .inl (List.mem_flatMap.2 ⟨q, List.mem_of_getElem? hq, hx⟩))
        (fun x hx => .inr (hambv x hx)) (fun x hx => .inr hx) hinv).mono
        (fun _ _ _ _ h => h) (fun _ _ _ _ _ h _ _ => h)
    · -- `MOVE d _` replaced by `NOOP`: they differ at most on `d`, which is not in `S`
      obtain ⟨r₂, hs2⟩ := hR.pure (core op) r m hse
      obtain ⟨r₃, hs3, _, _⟩ := act_noop hR r m
      have hmn := hR.moveNoop (core op) r m r₂ m r₃ m hk hdc hs2 hs3
      rcases sem_agree hR noopOp S S r r' m (fun _ h => nomatch h)
        (fun x hx => .inr (hambv x hx)) (fun x hx => .inr hx) hinv with
        ⟨_, r₃', _, h3, hs3', hag⟩ | ⟨_, _, h3, _⟩
      case inr => cases hs3.symm.trans h3
      cases hs3.symm.trans h3
      rw [act_plain_next (by rw [hk]; rfl) hs2, act_plain_next (op := noopOp) rfl hs3']
      refine ⟨r₃', rfl, fun x hx => ?_⟩
      have hxd : x ∉ op.defs := by
        rw [hd, List.mem_singleton]
        rintro rfl
        exact hx.elim hnu fun hx => Bool.false_ne_true (hx.symm.trans hv)
      rw [hmn.2 x hxd]
      exact hag x hx

theorem validMoves_sound {mc : Machine V M X} {amb : Reg → Bool} (hR : Respects mc amb)
    (hambv : ∀ x, amb x = true → x.isVirt = false) {P Q : List AOp}
    (h : validMoves amb P Q = true) : Equiv mc P Q :=
  (validMoves_spec h).equiv hR hambv

theorem redundantMovesC_eq_some {amb : Reg → Bool} {P Q : List AOp} :
    redundantMovesC amb P = some Q ↔
      validMoves amb P (removeRedundantMoves P) = true ∧ removeRedundantMoves P = Q := by
  simp only [redundantMovesC, Option.ite_none_right_eq_some, Option.some.injEq]

/-! ### the model of `remove_redundant_moves` on well-formed op lists -/

/-- every `MOVE` into a virtual register has no side effect, defines `$of`/`$err` like `NOOP`, and
virtual registers are not ambient (true of every real op list: `has_side_effect` of `MOVE` is
"defines a constant register", `def_const_registers` of `MOVE` and `NOOP` coincide) -/
def movesWf (amb : Reg → Bool) (P : List AOp) : Bool :=
  P.all fun op => match op.kind, op.defs with
    | .move, [.virt d] => !op.sideEffect && op.defConst == noopOp.defConst && !amb (.virt d)
    | _, _ => true

theorem allUses_movesRound_subset {P : List AOp} {x : Reg} (h : x ∈ allUses (movesRound P)) :
    x ∈ allUses P := by
  obtain ⟨q, hq, hx⟩ := List.mem_flatMap.1 h
  obtain ⟨op, hop, rfl⟩ := List.mem_map.1 hq
  by_cases hd : isDeadMove (allUses P) op = true
  · rw [if_pos hd] at hx; cases hx
  · rw [if_neg hd] at hx; exact List.mem_flatMap.2 ⟨op, hop, hx⟩
theorem isDeadMove_spec {us : List Reg} {op : AOp} (h : isDeadMove us op = true) :
    ∃ d, op.kind = .move ∧ op.defs = [.virt d] ∧ Reg.virt d ∉ us := by
  unfold isDeadMove at h
  split at h
  · rename_i d hk hd
    simp only [Bool.not_eq_true', List.contains_eq_mem, decide_eq_false_iff_not] at h
    exact ⟨d, hk, hd, h⟩
  · cases h

theorem movesRound_ok {amb : Reg → Bool} {P : List AOp} (hwf : movesWf amb P = true) :
    MovesOk amb P (movesRound P) := by
  refine ⟨List.length_map _, fun i op q hp hq => ?_⟩
  rw [movesRound, List.getElem?_map, hp] at hq
  cases hq
  by_cases hd : isDeadMove (allUses P) op = true
  · obtain ⟨d, hk, hdf, hnu⟩ := isDeadMove_spec hd
    have hw := List.all_eq_true.1 hwf op (List.mem_of_getElem? hp)
    simp only [hk, hdf, Bool.and_eq_true, Bool.not_eq_true', beq_iff_eq] at hw
    exact .inr ⟨if_pos hd, hw.1.1, hw.1.2, .virt d, hk, hdf, rfl, hw.2,
      fun h => hnu (allUses_movesRound_subset h)⟩
  · exact .inl (if_neg hd)

theorem movesRound_wf {amb : Reg → Bool} {P : List AOp} (hwf : movesWf amb P = true) :
    movesWf amb (movesRound P) = true := by
  refine List.all_eq_true.2 fun q hq => ?_
  obtain ⟨op, hop, rfl⟩ := List.mem_map.1 hq
  by_cases hd : isDeadMove (allUses P) op = true
  · rw [if_pos hd]; rfl
  · rw [if_neg hd]; exact List.all_eq_true.1 hwf op hop

theorem movesLoop_equiv {mc : Machine V M X} {amb : Reg → Bool} (hR : Respects mc amb)
    (hambv : ∀ x, amb x = true → x.isVirt = false) (n : Nat) (P : List AOp)
    (hwf : movesWf amb P = true) : Equiv mc P (movesLoop n P) := by
  induction n generalizing P with
  | zero => exact Equiv.refl mc P
  | succ n ih =>
    simp only [movesLoop]
    split
    · exact ((movesRound_ok hwf).equiv hR hambv).trans (ih _ (movesRound_wf hwf))
    · exact Equiv.refl mc P

end SwayVerif.AsmOpt
