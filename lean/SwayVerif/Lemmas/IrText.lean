import SwayVerif.Model.IrText
/-!
Every printed piece is read back by its own rule in front of an arbitrary continuation: `rule (text ++ r) = ok value (ws r)`,
under a condition on `r` only where the rule is greedy (`NoDigit` after a decimal numeral, `Delim` after a constant).
Stated this way the pieces compose: numerals and escapes into types and values, elements into separated lists
(`sepBy_joined`), and the recursive rules by induction on the fuel (`parseTyF_print`, `parseValF_print`). The closed
round trips of `Props/C05.lean` are the case `r = []`.
-/
namespace SwayVerif.IrText

/-! ### whitespace `_` -/

theorem ws_cons (c : Char) (r : List Char) (h : (isBlank c || isNl c || c == '/') = false) : ws (c :: r) = c :: r := by
  simp only [Bool.or_eq_false_iff, beq_eq_false_iff_ne] at h
  simp [ws, wsF, h]

theorem dropLine_length : ∀ (x y : List Char), dropLine x = some y → y.length < x.length := by
  intro x
  induction x with
  | nil => intro y hy; cases hy
  | cons a x ih =>
    intro y hy
    simp only [dropLine] at hy
    split at hy
    · cases hy; exact Nat.lt_succ_self _
    · exact Nat.lt_succ_of_lt (ih y hy)

/-- one iteration of `_`: a blank, a newline or a `// …` line -/
def wsStep : List Char → Option (List Char)
  | [] => none
  | c :: r =>
    if isBlank c || isNl c then some r
    else if c = '/' then match r with
      | '/' :: r' => dropLine r'
      | _ => none
    else none

theorem wsF_succ (f : Nat) (l : List Char) :
    wsF (f + 1) l = match wsStep l with | some l' => wsF f l' | none => l := by
  cases l with
  | nil => rfl
  | cons c r =>
    simp only [wsF, wsStep]
    by_cases hb : (isBlank c || isNl c) = true
    · rw [if_pos hb, if_pos hb]
    · rw [if_neg hb, if_neg hb]
      by_cases hs : c = '/'
      · rw [if_pos hs, if_pos hs]
        cases r with
        | nil => rfl
        | cons d r' =>
          by_cases hd : d = '/'
          · subst hd; simp only; cases dropLine r' <;> rfl
          · simp [hd]
      · rw [if_neg hs, if_neg hs]

theorem wsStep_length {l l' : List Char} (h : wsStep l = some l') : l'.length < l.length := by
  unfold wsStep at h
  split at h
  · cases h
  · split at h
    · cases h; exact Nat.lt_succ_self _
    · split at h
      · split at h
        · exact Nat.lt_succ_of_lt (Nat.lt_succ_of_lt (dropLine_length _ _ h))
        · cases h
      · cases h

theorem wsF_wsF : ∀ (f : Nat) (l : List Char), l.length < f → ∀ g, wsF (g + 1) (wsF f l) = wsF f l := by
  intro f
  induction f with
  | zero => intro l h; cases h
  | succ f ih =>
    intro l hl g
    rw [wsF_succ f]
    cases h : wsStep l with
    | none => rw [wsF_succ, h]
    | some l' => exact ih l' (Nat.lt_of_lt_of_le (wsStep_length h) (Nat.le_of_lt_succ hl)) g

theorem ws_ws (l : List Char) : ws (ws l) = ws l := wsF_wsF _ l (Nat.lt_succ_self _) _

@[simp] theorem ws_gt (r : List Char) : ws ('>' :: r) = '>' :: r := ws_cons _ _ (by decide)
@[simp] theorem ws_lt (r : List Char) : ws ('<' :: r) = '<' :: r := ws_cons _ _ (by decide)
@[simp] theorem ws_rb (r : List Char) : ws (']' :: r) = ']' :: r := ws_cons _ _ (by decide)
@[simp] theorem ws_lb (r : List Char) : ws ('[' :: r) = '[' :: r := ws_cons _ _ (by decide)
@[simp] theorem ws_rc (r : List Char) : ws ('}' :: r) = '}' :: r := ws_cons _ _ (by decide)
@[simp] theorem ws_lc (r : List Char) : ws ('{' :: r) = '{' :: r := ws_cons _ _ (by decide)
@[simp] theorem ws_rp (r : List Char) : ws (')' :: r) = ')' :: r := ws_cons _ _ (by decide)
@[simp] theorem ws_lp (r : List Char) : ws ('(' :: r) = '(' :: r := ws_cons _ _ (by decide)
@[simp] theorem ws_semi (r : List Char) : ws (';' :: r) = ';' :: r := ws_cons _ _ (by decide)
@[simp] theorem ws_comma (r : List Char) : ws (',' :: r) = ',' :: r := ws_cons _ _ (by decide)
@[simp] theorem ws_quote (r : List Char) : ws ('"' :: r) = '"' :: r := ws_cons _ _ (by decide)
@[simp] theorem ws_bar (r : List Char) : ws ('|' :: r) = '|' :: r := ws_cons _ _ (by decide)
@[simp] theorem ws_sp (r : List Char) : ws (' ' :: r) = ws r := rfl

/-! ### decimal numerals -/

theorem digitChar_spec : ∀ d, d < 10 →
    isDigit (digitChar d) = true ∧ digitVal (digitChar d) = d ∧ (digitChar d = '0' ↔ d = 0) := by
  decide

theorem ofDigits_snoc (xs : List Char) (c : Char) : ofDigits (xs ++ [c]) = ofDigits xs * 10 + digitVal c := by
  simp [ofDigits, List.foldl_append]

theorem decF_digits : ∀ (f n : Nat), ∀ c ∈ decF f n, isDigit c = true := by
  intro f
  induction f with
  | zero => intro n c h; simp [decF] at h
  | succ f ih =>
    intro n c h
    simp only [decF] at h
    by_cases hn : n < 10
    · simp [hn] at h; subst h; exact (digitChar_spec n hn).1
    · simp only [hn, if_false, List.mem_append, List.mem_singleton] at h
      rcases h with h | h
      · exact ih _ _ h
      · subst h; exact (digitChar_spec _ (Nat.mod_lt _ (by decide))).1

theorem ofDigits_decF : ∀ (f n : Nat), n < f → ofDigits (decF f n) = n := by
  intro f
  induction f with
  | zero => intro n h; cases h
  | succ f ih =>
    intro n h
    simp only [decF]
    by_cases hn : n < 10
    · simp [hn, ofDigits, (digitChar_spec n hn).2.1]
    · simp only [hn, if_false, ofDigits_snoc]
      rw [ih (n / 10) (by omega), (digitChar_spec _ (Nat.mod_lt _ (by decide))).2.1]
      omega

theorem decF_head : ∀ (f n : Nat), 0 < n → n < f →
    ∃ c ds, decF f n = c :: ds ∧ isDigit c = true ∧ c ≠ '0' := by
  intro f
  induction f with
  | zero => intro n _ h; cases h
  | succ f ih =>
    intro n hp h
    simp only [decF]
    by_cases hn : n < 10
    · refine ⟨digitChar n, [], by simp [hn], (digitChar_spec n hn).1, ?_⟩
      exact fun hc => Nat.ne_of_gt hp ((digitChar_spec n hn).2.2.mp hc)
    · simp only [hn, if_false]
      obtain ⟨c, ds, hd, h1, h2⟩ := ih (n / 10) (by omega) (by omega)
      exact ⟨c, ds ++ [digitChar (n % 10)], by simp [hd], h1, h2⟩

def NoDigit : List Char → Prop
  | [] => True
  | c :: _ => isDigit c = false

theorem takeDigits_append : ∀ (ds r : List Char), (∀ c ∈ ds, isDigit c = true) → NoDigit r →
    takeDigits (ds ++ r) = (ds, r) := by
  intro ds
  induction ds with
  | nil =>
    intro r _ hr
    cases r with
    | nil => simp [takeDigits]
    | cons c r => simp [NoDigit] at hr; simp [takeDigits, hr]
  | cons d ds ih =>
    intro r hd hr
    have h1 : isDigit d = true := hd d (by simp)
    have h2 := ih r (fun c hc => hd c (by simp [hc])) hr
    simp [takeDigits, h1, h2]

theorem decStr_zero : decStr 0 = ['0'] := by decide

theorem decDigits_decStr (n : Nat) (r : List Char) (hn : n < 2 ^ 64) (hr : NoDigit r) :
    decDigits (decStr n ++ r) = .ok n r := by
  by_cases h0 : n = 0
  · subst h0; simp [decStr_zero, decDigits]
  · obtain ⟨c, ds, hd, h1, h2⟩ := decF_head (n + 1) n (Nat.pos_of_ne_zero h0) (Nat.lt_succ_self n)
    have hall := decF_digits (n + 1) n
    have hval := ofDigits_decF (n + 1) n (Nat.lt_succ_self n)
    unfold decStr
    rw [hd] at hall hval ⊢
    simp only [List.cons_append, decDigits, h2, if_false, h1, if_true]
    rw [takeDigits_append ds r (fun c hc => hall c (by simp [hc])) hr]
    simp [hval, hn]

theorem decStr_head (n : Nat) : ∃ c ds, decStr n = c :: ds ∧ isDigit c = true := by
  by_cases h0 : n = 0
  · subst h0; exact ⟨'0', [], decStr_zero, by decide⟩
  · obtain ⟨c, ds, hd, h1, _⟩ := decF_head (n + 1) n (Nat.pos_of_ne_zero h0) (Nat.lt_succ_self n)
    exact ⟨c, ds, hd, h1⟩

theorem decStr_ne_nil (n : Nat) : decStr n ≠ [] := by
  obtain ⟨c, ds, h, _⟩ := decStr_head n
  rw [h]; exact List.cons_ne_nil c ds

theorem ws_decStr (n : Nat) (x : List Char) : ws (decStr n ++ x) = decStr n ++ x := by
  obtain ⟨c, ds, h, hd⟩ := decStr_head n
  have hne : ∀ d, isDigit d = false → c ≠ d := fun d hd' hc => by rw [hc, hd'] at hd; cases hd
  rw [h]
  exact ws_cons _ _ (by simp [isBlank, isNl, hne ' ' (by decide), hne '\t' (by decide), hne '\n' (by decide),
    hne '\r' (by decide), hne '/' (by decide)])

theorem decimal_decStr (n : Nat) (r : List Char) (hn : n < 2 ^ 64) (hr : NoDigit r) :
    decimal (decStr n ++ r) = .ok n (ws r) := by
  simp [decimal, decDigits_decStr n r hn hr]

/-! ### hexadecimal numerals -/

theorem hexDigit_spec : ∀ d, d < 16 → hexVal (hexDigitChar d) = some d := by decide

theorem takeHex_hexF : ∀ (j i acc m : Nat) (rest : List Char), m < 16 ^ j →
    takeHex (j + i) acc (hexF j m ++ rest) = takeHex i (acc * 16 ^ j + m) rest := by
  intro j
  induction j with
  | zero => intro i acc m rest h; simp at h; subst h; simp [hexF]
  | succ j ih =>
    intro i acc m rest h
    have hm : m / 16 < 16 ^ j := by
      rw [Nat.pow_succ] at h; exact Nat.div_lt_of_lt_mul (by omega)
    simp only [hexF, List.append_assoc, List.singleton_append]
    have e : j + 1 + i = j + (i + 1) := by rw [Nat.add_assoc, Nat.add_comm 1 i]
    rw [e, ih (i + 1) acc (m / 16) _ hm]
    simp only [takeHex, hexDigit_spec _ (Nat.mod_lt m (by decide : 0 < 16))]
    congr 1
    rw [Nat.pow_succ]
    have := Nat.div_add_mod m 16
    rw [Nat.add_mul, Nat.mul_assoc]
    omega

theorem takeHex64 (n : Nat) (r : List Char) (hn : n < 2 ^ 256) : takeHex 64 0 (hexF 64 n ++ r) = some (n, r) := by
  have h : n < 16 ^ 64 := by
    have : (16 : Nat) ^ 64 = 2 ^ 256 := by
      rw [show (16 : Nat) = 2 ^ 4 from rfl, ← Nat.pow_mul]
    omega
  have := takeHex_hexF 64 0 0 n r h
  simpa [takeHex] using this

/-! ### string escapes -/

theorem toNat_ofNat (b : Nat) (hb : b < 256) : (Char.ofNat b).toNat = b := by
  have : b.isValidChar := Or.inl (Nat.lt_trans hb (by decide))
  simp [Char.ofNat, this, Char.ofNatAux, Char.toNat]

theorem strChar_escByte (b : Nat) (r : List Char) (hb : b < 256) : strChar (escByte b ++ r) = some (b, r) := by
  unfold escByte
  by_cases hp : plainByte b = true
  · simp [hp, strChar, toNat_ofNat b hb]
  · simp only [hp]
    have h1 : b / 16 < 16 := Nat.div_lt_of_lt_mul hb
    have h2 : b % 16 < 16 := Nat.mod_lt _ (by decide)
    have hbs : plainByte ('\\' : Char).toNat = false := by decide
    simp only [Bool.false_eq_true, if_false, List.cons_append, List.nil_append, strChar, hbs, if_true,
      hexDigit_spec _ h1, hexDigit_spec _ h2]
    have := Nat.div_add_mod b 16
    simp; omega

theorem strChar_quote (r : List Char) : strChar ('"' :: r) = none := by
  have h1 : plainByte 34 = false := by decide
  have h2 : ('"' : Char) ≠ '\\' := by decide
  simp [strChar, h1, h2]

theorem strCharsF_escape {rest : List Char} (hstop : strChar rest = none) :
    ∀ (f : Nat) (bs : List Nat), bytesOk bs = true → bs.length < f → strCharsF f (escape bs ++ rest) = (bs, rest) := by
  intro f
  induction f with
  | zero => intro bs _ hf; cases hf
  | succ f ih =>
    intro bs hok hf
    cases bs with
    | nil => simp [escape, strCharsF, hstop]
    | cons b bs =>
      simp only [bytesOk, Bool.and_eq_true, decide_eq_true_eq] at hok
      simp only [escape, List.append_assoc, strCharsF, strChar_escByte b _ hok.1]
      rw [ih bs hok.2 (Nat.lt_of_succ_lt_succ hf)]

theorem escByte_length (b : Nat) : 1 ≤ (escByte b).length := by
  unfold escByte; by_cases hp : plainByte b = true <;> simp [hp]

theorem escape_length : ∀ (bs : List Nat), bs.length ≤ (escape bs).length := by
  intro bs
  induction bs with
  | nil => simp [escape]
  | cons b bs ih => simp only [escape, List.length_append, List.length_cons]; have := escByte_length b; omega

theorem unescape_escape (bs : List Nat) (h : bytesOk bs = true) : unescape (escape bs) = some bs := by
  have := strCharsF_escape (rest := []) rfl ((escape bs).length + 1) bs h (Nat.lt_succ_of_le (escape_length bs))
  simp only [List.append_nil] at this
  simp [unescape, strChars, this]

theorem bytesOk_map (bs : List UInt8) : bytesOk (bs.map (·.toNat)) = true := by
  induction bs with
  | nil => simp [bytesOk]
  | cons b bs ih => simp [bytesOk, ih]; exact UInt8.toNat_lt b

/-! ### separated lists -/

def joinTail {β : Type} (sepStr : List Char) (txt : β → List Char) : List β → List Char
  | [] => []
  | b :: bs => sepStr ++ txt b ++ joinTail sepStr txt bs

theorem joinTail_length {β : Type} (sepStr : List Char) (txt : β → List Char) (h : 1 ≤ sepStr.length) :
    (bs : List β) → bs.length ≤ (joinTail sepStr txt bs).length
  | [] => Nat.le_refl 0
  | b :: bs => by have := joinTail_length sepStr txt h bs; simp [joinTail]; omega

/-- how the separator rule `sp` meets the printed separator `sepStr`: after `_` the text is `c␣…`,
and `sp` takes `c` and the blank -/
structure SepOk (sp : List Char → Option (List Char)) (sepStr : List Char) (c : Char) : Prop where
  text : ∀ x, ws (sepStr ++ x) = c :: ' ' :: x
  read : ∀ x, sp (c :: x) = some (ws x)
  ne : 1 ≤ sepStr.length

theorem comma_ok : SepOk comma [',',' '] ',' := ⟨fun _ => ws_comma _, fun _ => rfl, by decide⟩

theorem bar_ok : SepOk barSep [' ','|',' '] '|' := ⟨fun _ => ws_bar _, fun _ => rfl, by decide⟩

section
variable {α β : Type} {p : List Char → R α} {sp : List Char → Option (List Char)} {txt : β → List Char}
  {val : β → α} {sepStr tail stop : List Char} {c : Char} {Q : List Char → Prop}

theorem joinTail_Q (hQ : ∀ x, Q (sepStr ++ x)) (hQt : Q tail) (bs : List β) : Q (joinTail sepStr txt bs ++ tail) := by
  cases bs with
  | nil => exact hQt
  | cons b bs => simpa [joinTail] using hQ (txt b ++ (joinTail sepStr txt bs ++ tail))

/-- The loop `(sep e)*` on the printed rest of a list. `Q` is what the element parser `p` asks of the text
after an element; `tail` is the text after the list, where `sp` fails once `_` has been skipped. -/
theorem sepLoop_joined (hs : SepOk sp sepStr c) (hQ : ∀ x, Q (sepStr ++ x)) (hQt : Q tail)
    (htail : ws tail = stop) (hstop : sp stop = none) :
    (bs : List β) → (∀ b ∈ bs, ∀ y, Q y → ws (txt b ++ y) = txt b ++ y ∧ p (txt b ++ y) = .ok (val b) (ws y)) →
    ∀ k, bs.length ≤ k → sepLoop p sp k (ws (joinTail sepStr txt bs ++ tail)) = .ok (bs.map val) stop
  | [], _, k, _ => by
    rw [joinTail, List.nil_append, htail]
    cases k <;> simp [sepLoop, hstop]
  | b :: bs, hel, k, hk => by
    cases k with
    | zero => simp at hk
    | succ k =>
      obtain ⟨h1, h2⟩ := hel b (List.mem_cons_self ..) _ (joinTail_Q (txt := txt) hQ hQt bs)
      have ih := sepLoop_joined hs hQ hQt htail hstop bs (fun b' hb' => hel b' (List.mem_cons_of_mem _ hb')) k
        (Nat.le_of_succ_le_succ hk)
      simp only [joinTail, List.append_assoc, hs.text, sepLoop, hs.read, ws_sp, h1, h2, ih, List.map]

/-- `e ** sep` and `e ++ sep` on a printed non-empty list -/
theorem sepBy_joined (hs : SepOk sp sepStr c) (hQ : ∀ x, Q (sepStr ++ x)) (hQt : Q tail)
    (htail : ws tail = stop) (hstop : sp stop = none) (b : β) (bs : List β)
    (hel : ∀ b' ∈ b :: bs, ∀ y, Q y → ws (txt b' ++ y) = txt b' ++ y ∧ p (txt b' ++ y) = .ok (val b') (ws y)) :
    sepBy0 p sp (txt b ++ (joinTail sepStr txt bs ++ tail)) = .ok ((b :: bs).map val) stop ∧
    sepBy1 p sp (txt b ++ (joinTail sepStr txt bs ++ tail)) = .ok ((b :: bs).map val) stop := by
  have hk : bs.length ≤ (ws (joinTail sepStr txt bs ++ tail)).length := by
    cases bs with
    | nil => exact Nat.zero_le _
    | cons b' bs =>
      have := joinTail_length sepStr txt hs.ne bs
      simp only [joinTail, List.append_assoc, hs.text, List.length_cons, List.length_append]
      omega
  have hl := sepLoop_joined hs hQ hQt htail hstop bs (fun b' hb' => hel b' (List.mem_cons_of_mem _ hb')) _ hk
  have hp := (hel b (List.mem_cons_self ..) _ (joinTail_Q (txt := txt) hQ hQt bs)).2
  simp only [sepBy0, sepBy1, hp, hl, List.map, and_self]

end

/-! ### the type grammar -/

@[simp] theorem orElse_some {α : Type} (r : R α) (b : Unit → R α) : orElse (some r) b = r := rfl
@[simp] theorem orElse_none {α : Type} (b : Unit → R α) : orElse none b = b () := rfl
@[simp] theorem andThen_ok {α β : Type} (a : α) (r : List Char) (k : α → List Char → Option (R β)) :
    andThen (.ok a r) k = k a r := rfl
@[simp] theorem andThen_fail {α β : Type} (k : α → List Char → Option (R β)) : andThen (.fail : R α) k = none := rfl
@[simp] theorem andThen_panic {α β : Type} (k : α → List Char → Option (R β)) :
    andThen (.panic : R α) k = some .panic := rfl

mutual
def Ty.size : Ty → Nat
  | .arr t _ => t.size + 1
  | .union ts => ts.size + 1
  | .struct ts => ts.size + 1
  | .tptr t => t.size + 1
  | .tslice t => t.size + 1
  | _ => 1
def Tys.size : Tys → Nat
  | .nil => 0
  | .cons t ts => t.size + ts.size + 1
end

def Tys.toList : Tys → List Ty
  | .nil => []
  | .cons t ts => t :: ts.toList

theorem tysOfList_toList : (ts : Tys) → tysOfList ts.toList = ts
  | .nil => rfl
  | .cons t ts => by simp [Tys.toList, tysOfList, tysOfList_toList ts]

theorem tyOk_of_mem {t : Ty} : (ts : Tys) → tysOk ts = true → t ∈ ts.toList → tyOk t = true
  | .nil, _, h => by simp [Tys.toList] at h
  | .cons t0 ts, hok, h => by
    simp only [tysOk, Bool.and_eq_true] at hok
    simp only [Tys.toList, List.mem_cons] at h
    rcases h with rfl | h
    · exact hok.1
    · exact tyOk_of_mem ts hok.2 h

theorem Tys.size_of_mem {t : Ty} : (ts : Tys) → t ∈ ts.toList → t.size < ts.size
  | .nil, h => by simp [Tys.toList] at h
  | .cons t0 ts, h => by
    simp only [Tys.toList, List.mem_cons] at h
    simp only [Tys.size]
    rcases h with rfl | h
    · exact Nat.lt_succ_of_le (Nat.le_add_right _ _)
    · have := Tys.size_of_mem ts h; omega

def tailTys (sepStr : List Char) : Tys → List Char
  | .nil => []
  | .cons t ts => sepStr ++ printTy t ++ tailTys sepStr ts

theorem tailTys_eq (sepStr : List Char) : (ts : Tys) → tailTys sepStr ts = joinTail sepStr printTy ts.toList
  | .nil => rfl
  | .cons t ts => by simp only [tailTys, Tys.toList, joinTail, tailTys_eq sepStr ts]

theorem printTys_cons (sep : List Char) : (t : Ty) → (ts : Tys) →
    printTys sep (.cons t ts) = printTy t ++ tailTys (if sep = [','] then [',',' '] else [' ','|',' ']) ts
  | t, .nil => by simp [printTys, tailTys]
  | t, .cons t2 ts2 => by simp [printTys, tailTys, printTys_cons sep t2 ts2]

theorem ws_printTy (t : Ty) (x : List Char) : ws (printTy t ++ x) = printTy t ++ x := by
  cases t <;> exact ws_cons _ _ (by decide)

theorem parseTyF_rc (f : Nat) (r : List Char) : parseTyF f ('}' :: r) = .fail := by
  cases f <;> rfl

/-- The induction is on the fuel, so that the hypothesis covers every element of a struct or union at once. -/
theorem parseTyF_print : ∀ (f : Nat) (t : Ty), tyOk t = true → t.size < f → ∀ r,
    parseTyF f (printTy t ++ r) = .ok t (ws r) := by
  intro f
  induction f with
  | zero => intro t _ hf; cases hf
  | succ f ih =>
    intro t h hf r
    have hel : ∀ ts, tysOk ts = true → ts.size < f → ∀ t' ∈ ts.toList, ∀ y, True →
        ws (printTy t' ++ y) = printTy t' ++ y ∧ parseTyF f (printTy t' ++ y) = .ok (id t') (ws y) :=
      fun ts hts hsz t' ht' y _ =>
        ⟨ws_printTy t' y, ih t' (tyOk_of_mem ts hts ht') (Nat.lt_trans (Tys.size_of_mem ts ht') hsz) y⟩
    cases t with
    -- a keyword: the parser computes its answer without looking at `r`
    | never | unit | bool | b256 | slice | ptr => rfl
    | strSlice => simp [tyOk] at h
    | uint n =>
      simp only [tyOk, Bool.or_eq_true, beq_iff_eq] at h
      rcases h with (h | h) | h <;> subst h <;> rfl
    | strArr n =>
      simp only [tyOk, decide_eq_true_eq] at h
      have hd := decimal_decStr n ('>' :: r) h (by simp [NoDigit, isDigit])
      simp [printTy, parseTyF, altKw, kw, lit, altTSlice, altStrArr, ws_decStr, hd]
    | arr t n =>
      simp only [tyOk, Bool.and_eq_true, decide_eq_true_eq] at h
      have ih := ih t h.1 (Nat.lt_of_succ_lt_succ hf)
      have hd := decimal_decStr n (']' :: r) h.2 (by simp [NoDigit, isDigit])
      simp [printTy, parseTyF, altKw, kw, lit, altTSlice, altStrArr, altArr, ws_printTy, ih, ws_decStr, hd]
    | tslice t =>
      simp only [tyOk] at h
      have ih := ih t h (Nat.lt_of_succ_lt_succ hf)
      simp [printTy, parseTyF, altKw, kw, lit, altTSlice, ws_printTy, ih]
    | tptr t =>
      simp only [tyOk] at h
      have ih := ih t h (Nat.lt_of_succ_lt_succ hf)
      simp [printTy, parseTyF, altKw, kw, lit, altTSlice, altStrArr, altArr, altStruct, altUnion, altTPtr, ws_printTy, ih, ws_ws]
    | struct ts =>
      simp only [tyOk] at h
      cases ts with
      | nil =>
        simp [printTy, printTys, parseTyF, altKw, kw, lit, altTSlice, altStrArr, altArr, altStruct, sepBy0,
          tysOfList, parseTyF_rc]
      | cons t ts =>
        have hl := (sepBy_joined comma_ok (fun _ => trivial) trivial (ws_sp ('}' :: r)) rfl t ts.toList
          (hel (.cons t ts) h (Nat.lt_of_succ_lt_succ hf))).1
        simp only [ws_rc] at hl
        simp [printTy, printTys_cons, tailTys_eq, parseTyF, altKw, kw, lit, altTSlice, altStrArr, altArr, altStruct,
          ws_printTy, hl, tysOfList, tysOfList_toList]
    | union ts =>
      cases ts with
      | nil => simp [tyOk] at h
      | cons t ts =>
        simp only [tyOk, Bool.true_and] at h
        have hl := (sepBy_joined bar_ok (fun _ => trivial) trivial (ws_sp (')' :: r)) rfl t ts.toList
          (hel (.cons t ts) h (Nat.lt_of_succ_lt_succ hf))).2
        simp only [ws_rp] at hl
        simp [printTy, printTys_cons, tailTys_eq, parseTyF, altKw, kw, lit, altTSlice, altStrArr, altArr, altStruct,
          altUnion, ws_printTy, hl, tysOfList, tysOfList_toList]

theorem parseTys_all : (ts : Tys) → tysOk ts = true → ∀ f, ts.size < f → ∀ t x,
    (∃ pre post, ts.toList = pre ++ t :: post) → parseTyF f (printTy t ++ x) = .ok t (ws x) := by
  intro ts h f hf t x ⟨pre, post, hm⟩
  have ht : t ∈ ts.toList := by rw [hm]; exact List.mem_append_right _ (List.mem_cons_self ..)
  exact parseTyF_print f t (tyOk_of_mem ts h ht) (Nat.lt_trans (Tys.size_of_mem ts ht) hf) x

mutual
theorem Ty.size_le : (t : Ty) → t.size ≤ (printTy t).length
  | .never | .unit | .bool | .b256 | .strSlice | .slice | .ptr => by decide
  | .uint _ | .strArr _ => Nat.le_add_left 1 _
  | .arr t _ | .tptr t | .tslice t => by
    have := Ty.size_le t
    simp only [Ty.size, printTy, List.length_cons, List.length_append, List.length_nil]; omega
  | .struct ts => by
    cases ts with
    | nil => decide
    | cons t ts =>
      have h1 := Ty.size_le t
      have h2 := Tys.size_le [',',' '] ts (by decide)
      simp only [Ty.size, Tys.size, printTy, printTys_cons, if_pos, List.length_cons, List.length_append, List.length_nil]
      omega
  | .union ts => by
    cases ts with
    | nil => decide
    | cons t ts =>
      have h1 := Ty.size_le t
      have h2 := Tys.size_le [' ','|',' '] ts (by decide)
      simp only [Ty.size, Tys.size, printTy, printTys_cons, List.cons.injEq, Char.reduceEq, false_and, if_false, List.length_cons, List.length_append, List.length_nil]
      omega
theorem Tys.size_le (s : List Char) : (ts : Tys) → 1 ≤ s.length → ts.size ≤ (tailTys s ts).length
  | .nil, _ => Nat.le_refl 0
  | .cons t ts, hs => by
    have h1 := Ty.size_le t
    have h2 := Tys.size_le s ts hs
    simp only [Tys.size, tailTys, List.length_append]; omega
end

theorem parseTy_printTy (t : Ty) (h : tyOk t = true) : parseTy (printTy t) = .ok t := by
  have := parseTyF_print ((printTy t).length + 1) t h (Nat.lt_succ_of_le (Ty.size_le t)) []
  simp only [List.append_nil] at this
  simp [parseTy, this, ws, wsF]

/-! ### `beq` decides equality -/

/-- By the case analysis of `Ty.beq` itself; `case15` and `case18` are the catch-all arms, where it is `false`. -/
theorem beq_sound : (∀ a b, Ty.beq a b = true → a = b) ∧ (∀ a b, Tys.beq a b = true → a = b) := by
  apply Ty.beq.mutual_induct (motive_1 := fun a b => Ty.beq a b = true → a = b)
    (motive_2 := fun a b => Tys.beq a b = true → a = b)
  case case8 | case9 => intro a b h; simp only [Ty.beq, beq_iff_eq] at h; rw [h]
  case case10 => intro s a t b ih h; simp only [Ty.beq, Bool.and_eq_true, beq_iff_eq] at h; rw [h.1, ih h.2]
  case case11 | case12 | case13 | case14 => intro s t ih h; rw [ih h]
  case case15 => intro t x h1 h2 h3 h4 h5 h6 h7 h8 h9 h10 h11 h12 h13 h14 h; simp only [Ty.beq, *] at h; cases h
  case case17 => intro a s b t ih1 ih2 h; simp only [Tys.beq, Bool.and_eq_true] at h; rw [ih1 h.1, ih2 h.2]
  case case18 => intro t x h1 h2 h; simp only [Tys.beq, *] at h; cases h
  all_goals exact fun _ => rfl

theorem Ty.eq_of_beq (a b : Ty) : Ty.beq a b = true → a = b := beq_sound.1 a b

theorem Tys.eq_of_beq : (a b : Tys) → Tys.beq a b = true → a = b := beq_sound.2

mutual
theorem Ty.beq_refl : (a : Ty) → Ty.beq a a = true
  | .never | .unit | .bool | .b256 | .strSlice | .slice | .ptr => rfl
  | .uint _ | .strArr _ => beq_self_eq_true _
  | .arr s _ => Bool.and_eq_true_iff.mpr ⟨beq_self_eq_true _, Ty.beq_refl s⟩
  | .union s | .struct s => Tys.beq_refl s
  | .tptr s | .tslice s => Ty.beq_refl s
theorem Tys.beq_refl : (a : Tys) → Tys.beq a a = true
  | .nil => rfl
  | .cons x s => Bool.and_eq_true_iff.mpr ⟨Ty.beq_refl x, Tys.beq_refl s⟩
end

@[simp] theorem Ty.beq_iff {a b : Ty} : Ty.beq a b = true ↔ a = b :=
  ⟨Ty.eq_of_beq a b, fun h => h ▸ Ty.beq_refl a⟩

mutual
theorem Const.beq_refl : (c : Const) → Const.beq c c = true
  | .undef t | .unit t => Ty.beq_refl t
  | .bool t _ | .uint t _ | .u256 t _ | .b256 t _ | .str t _ | .raw t _ =>
    Bool.and_eq_true_iff.mpr ⟨Ty.beq_refl t, beq_self_eq_true _⟩
  | .arr t es | .slice t es | .struct t es => Bool.and_eq_true_iff.mpr ⟨Ty.beq_refl t, Consts.beq_refl es⟩
  | .ref t c => Bool.and_eq_true_iff.mpr ⟨Ty.beq_refl t, Const.beq_refl c⟩
theorem Consts.beq_refl : (cs : Consts) → Consts.beq cs cs = true
  | .nil => rfl
  | .cons c cs => Bool.and_eq_true_iff.mpr ⟨Const.beq_refl c, Consts.beq_refl cs⟩
end

/-! ### the constant grammar -/

mutual
def toAst : Const → Ast
  | .undef _ => .undef
  | .unit _ => .unit
  | .bool _ b => .bool b
  | .uint _ n => .num n
  | .u256 _ n => .hex n
  | .b256 _ n => .hex n
  | .str _ bs => .str bs
  | .arr _ es => .arr (toFields es)
  | .struct _ es => .struct (toFields es)
  | .slice _ _ => .undef
  | .ref _ _ => .undef
  | .raw _ _ => .undef
def toFields : Consts → Fields
  | .nil => .nil
  | .cons c cs => .cons c.ty (toAst c) (toFields cs)
end

mutual
def Const.size : Const → Nat
  | .arr _ es => es.size + 1
  | .struct _ es => es.size + 1
  | .slice _ es => es.size + 1
  | .ref _ c => c.size + 1
  | _ => 1
def Consts.size : Consts → Nat
  | .nil => 0
  | .cons c cs => c.size + cs.size + 2
end

def Consts.len : Consts → Nat
  | .nil => 0
  | .cons _ cs => cs.len + 1

def Consts.toPairs : Consts → List (Ty × Ast)
  | .nil => []
  | .cons c cs => (c.ty, toAst c) :: cs.toPairs

def Consts.toList : Consts → List Const
  | .nil => []
  | .cons c cs => c :: cs.toList

theorem Consts.toPairs_eq : (cs : Consts) → cs.toPairs = cs.toList.map fun c => (c.ty, toAst c)
  | .nil => rfl
  | .cons c cs => by simp only [Consts.toPairs, Consts.toList, List.map, Consts.toPairs_eq cs]

theorem Consts.len_eq : (cs : Consts) → cs.len = cs.toList.length
  | .nil => rfl
  | .cons c cs => by simp only [Consts.len, Consts.toList, List.length_cons, Consts.len_eq cs]

theorem fieldsOfList_toPairs : (cs : Consts) → fieldsOfList cs.toPairs = toFields cs
  | .nil => by simp [Consts.toPairs, fieldsOfList, toFields]
  | .cons c cs => by simp [Consts.toPairs, fieldsOfList, toFields, fieldsOfList_toPairs cs]

theorem printableIn_of_mem {c : Const} : (cs : Consts) → allPrintable cs = true → c ∈ cs.toList → printableIn c = true
  | .nil, _, h => by simp [Consts.toList] at h
  | .cons c0 cs, hok, h => by
    simp only [allPrintable, Bool.and_eq_true] at hok
    simp only [Consts.toList, List.mem_cons] at h
    rcases h with rfl | h
    · exact hok.1
    · exact printableIn_of_mem cs hok.2 h

theorem Consts.size_of_mem {c : Const} : (cs : Consts) → c ∈ cs.toList → c.size + 2 ≤ cs.size
  | .nil, h => by simp [Consts.toList] at h
  | .cons c0 cs, h => by
    simp only [Consts.toList, List.mem_cons] at h
    simp only [Consts.size]
    rcases h with rfl | h
    · exact Nat.add_le_add_right (Nat.le_add_right _ _) 2
    · have := Consts.size_of_mem cs h; omega

theorem allPrintable_of_sameTy (t : Ty) : (cs : Consts) → allPrintableSameTy t cs = true → allPrintable cs = true
  | .nil, _ => by simp [allPrintable]
  | .cons c cs, h => by
    simp only [allPrintableSameTy, Bool.and_eq_true] at h
    simp [allPrintable, h.1.2, allPrintable_of_sameTy t cs h.2]

theorem tyOk_of_printableIn (c : Const) (h : printableIn c = true) : tyOk c.ty = true := by
  cases c with
  | undef ty => exact h
  | unit ty | bool ty b => cases Ty.beq_iff.mp h; rfl
  | u256 ty n | b256 ty n => cases Ty.beq_iff.mp (Bool.and_eq_true_iff.mp h).1; rfl
  | uint ty n | str ty bs | struct ty es => exact (Bool.and_eq_true_iff.mp h).1
  | arr ty es =>
    cases es with
    | nil => simp [printableIn] at h
    | cons e es => exact (Bool.and_eq_true_iff.mp h).1
  | slice ty es | ref ty c | raw ty bs => cases h

/-- text of the type in front of a printed constant: `unit ()` is the one constant whose text does not
start with its type as `printTy` writes it -/
def tyText : Const → List Char
  | .unit _ => ['u','n','i','t']
  | c => printTy c.ty

def valText : Const → List Char
  | .undef _ => ['u','n','d','e','f']
  | .unit _ => ['(',')']
  | .bool _ b => if b then ['t','r','u','e'] else ['f','a','l','s','e']
  | .uint _ n => decStr n
  | .u256 _ n => ['0','x'] ++ hexF 64 n
  | .b256 _ n => ['0','x'] ++ hexF 64 n
  | .str _ bs => '"' :: escape bs ++ ['"']
  | .arr _ es => '[' :: printConsts es ++ [']']
  | .struct _ es => '{' :: ' ' :: printConsts es ++ [' ','}']
  | _ => []

theorem printConst_split (c : Const) (h : printableIn c = true) : printConst c = tyText c ++ ' ' :: valText c := by
  cases c with
  | undef ty | unit ty | uint ty n => rfl
  | bool ty b => cases Ty.beq_iff.mp h; rfl
  | u256 ty n | b256 ty n => cases Ty.beq_iff.mp (Bool.and_eq_true_iff.mp h).1; rfl
  | str ty bs | arr ty es | struct ty es => rw [printConst, List.append_assoc, List.append_assoc]; rfl
  | slice ty es | ref ty c | raw ty bs => cases h

def Delim (r : List Char) : Prop :=
  r = [] ∨ (∃ x, r = ',' :: x) ∨ (∃ x, r = ']' :: x) ∨ (∃ x, r = ' ' :: '}' :: x)

theorem Delim.noDigit {r : List Char} (h : Delim r) : NoDigit r := by
  rcases h with h | ⟨x, h⟩ | ⟨x, h⟩ | ⟨x, h⟩ <;> subst h <;> simp [NoDigit, isDigit]

theorem Delim.meta_ok {r : List Char} (h : Delim r) : optMeta (ws r) = .ok () (ws r) := by
  rcases h with h | ⟨x, h⟩ | ⟨x, h⟩ | ⟨x, h⟩ <;> subst h
  · simp [optMeta, ws, wsF]
  all_goals simp [optMeta]

theorem Delim.notX {r : List Char} (h : Delim r) : lit ['0','x'] ('0' :: r) = none := by
  rcases h with h | ⟨x, h⟩ | ⟨x, h⟩ | ⟨x, h⟩ <;> subst h <;> simp [lit]

theorem ws_valText (c : Const) (h : printableIn c = true) (x : List Char) : ws (valText c ++ x) = valText c ++ x := by
  cases c with
  | uint ty n => simpa [valText] using ws_decStr n x
  | bool ty b => cases b <;> exact ws_cons _ _ (by decide)
  | slice ty es | ref ty c | raw ty bs => cases h
  | _ => exact ws_cons _ _ (by decide)

theorem parseTyF_printConst (c : Const) (h : printableIn c = true) (r : List Char) :
    parseTyF ((printConst c ++ r).length + 1) (printConst c ++ r) = .ok c.ty (valText c ++ r) := by
  rw [← ws_valText c h r]
  by_cases hc : ∃ ty, c = .unit ty
  · obtain ⟨ty, rfl⟩ := hc
    cases Ty.beq_iff.mp h
    rfl
  · have e : printConst c ++ r = printTy c.ty ++ ' ' :: (valText c ++ r) := by
      rw [printConst_split c h, List.append_assoc]
      cases c with
      | unit ty => exact absurd ⟨ty, rfl⟩ hc
      | _ => rfl
    rw [e]
    exact parseTyF_print _ _ (tyOk_of_printableIn c h) (Nat.lt_succ_of_le (Nat.le_trans (Ty.size_le c.ty)
      (by rw [List.length_append]; exact Nat.le_add_right _ _))) _

theorem ws_printConst (c : Const) (h : printableIn c = true) (x : List Char) :
    ws (printConst c ++ x) = printConst c ++ x := by
  rw [printConst_split c h, List.append_assoc]
  cases c with
  | unit ty => exact ws_cons _ _ (by decide)
  | _ => exact ws_printTy _ _

theorem parseValF_u (f : Nat) (x : List Char) : parseValF f ('u' :: x) = .fail := by
  cases f <;> rfl

theorem field_of_val (c : Const) (h : printableIn c = true) (f : Nat) (r : List Char) (hr : Delim r)
    (hV : (∀ ty, c ≠ .undef ty) → parseValF f (valText c ++ r) = .ok (toAst c) (ws r)) :
    parseFieldF (f + 1) (printConst c ++ r) = .ok (c.ty, toAst c) (ws r) := by
  simp only [parseFieldF]
  rw [parseTyF_printConst c h r]
  by_cases hu : ∃ ty, c = .undef ty
  · obtain ⟨ty, hu⟩ := hu
    subst hu
    simp [altFieldVal, valText, parseValF_u, kw, lit, toAst, Const.ty]
  · have hV' := hV (fun ty hc => hu ⟨ty, hc⟩)
    simp [altFieldVal, hV', hr.meta_ok]

def tailC : Consts → List Char
  | .nil => []
  | .cons c cs => [',',' '] ++ printConst c ++ tailC cs

theorem tailC_eq : (cs : Consts) → tailC cs = joinTail [',',' '] printConst cs.toList
  | .nil => rfl
  | .cons c cs => by simp only [tailC, Consts.toList, joinTail, tailC_eq cs]

theorem printConsts_cons : (c : Const) → (cs : Consts) → printConsts (.cons c cs) = printConst c ++ tailC cs
  | c, .nil => by simp [printConsts, tailC]
  | c, .cons c2 cs2 => by
    have := printConsts_cons c2 cs2
    simp [printConsts, tailC, this]

theorem parseFieldF_rc (f : Nat) (r : List Char) : parseFieldF f ('}' :: r) = .fail := by
  cases f with
  | zero => rfl
  | succ f => simp only [parseFieldF, parseTyF_rc]

def ValOk (f : Nat) : Prop :=
  ∀ c, printableIn c = true → (∀ ty, c ≠ .undef ty) → c.size < f → ∀ r, Delim r →
    parseValF f (valText c ++ r) = .ok (toAst c) (ws r)

/-- what `sepLoop_joined` asks of the elements of a printed constant list -/
theorem fields_of_vals {f : Nat} (hV : ValOk f) (cs : Consts) (h : allPrintable cs = true) (hs : cs.size < f + 1) :
    ∀ c ∈ cs.toList, ∀ y, Delim y → ws (printConst c ++ y) = printConst c ++ y ∧
      parseFieldF (f + 1) (printConst c ++ y) = .ok (c.ty, toAst c) (ws y) :=
  fun c hc y hy =>
    have hc' := printableIn_of_mem cs h hc
    ⟨ws_printConst c hc' y,
      field_of_val c hc' f y hy fun hu => hV c hc' hu (by have := Consts.size_of_mem cs hc; omega) y hy⟩

theorem delim_comma (x : List Char) : Delim ([',',' '] ++ x) := Or.inr (Or.inl ⟨_, rfl⟩)

/-- Strong induction on the fuel: a field of an array or struct is read with fuel two below. -/
theorem parseValF_print : ∀ f, ValOk f := by
  intro f
  induction f using Nat.strongRecOn with | ind f ih => ?_
  intro c h hu hf r hr
  cases f with
  | zero => cases hf
  | succ f =>
  cases c with
  | undef ty => exact absurd rfl (hu ty)
  | unit ty => rfl
  | bool ty b => cases b <;> rfl
  | uint ty n =>
    simp only [printableIn, Bool.and_eq_true, decide_eq_true_eq] at h
    have hd := decimal_decStr n r h.2 hr.noDigit
    -- the text starts with a digit: no keyword reads it, and `0x` does not either
    have hk : ∀ p ps a, isDigit p = false → altVKw (p :: ps) a (decStr n ++ r) = none := by
      intro p ps a hp
      obtain ⟨ch, ds, hc, hdig⟩ := decStr_head n
      have : p ≠ ch := fun e => by rw [e, hdig] at hp; cases hp
      simp [hc, altVKw, kw, lit, this]
    have hhex : altHex (decStr n ++ r) = none := by
      by_cases h0 : n = 0
      · subst h0; simp [decStr_zero, altHex, hr.notX]
      · obtain ⟨c2, ds2, hc2, _, hnz⟩ := decF_head (n + 1) n (Nat.pos_of_ne_zero h0) (Nat.lt_succ_self n)
        have : decStr n = c2 :: ds2 := hc2
        simp [this, altHex, lit, Ne.symm hnz]
    simp [valText, parseValF, hk '(' _ _ rfl, hk 't' _ _ rfl, hk 'f' _ _ rfl, hhex, altNum, hd, toAst]
  | u256 ty n | b256 ty n =>
    simp only [printableIn, Bool.and_eq_true, decide_eq_true_eq] at h
    simp [valText, parseValF, altVKw, kw, lit, altHex, takeHex64 n r h.2, toAst]
  | str ty bs =>
    simp only [printableIn, Bool.and_eq_true] at h
    have hs : strChars (escape bs ++ '"' :: r) = (bs, '"' :: r) :=
      strCharsF_escape (strChar_quote r) _ bs h.2 (by have := escape_length bs; simp; omega)
    simp [valText, parseValF, altVKw, kw, lit, altHex, altNum, decimal, decDigits, isDigit, altStr, hs, toAst]
  | slice _ _ | ref _ _ | raw _ _ => cases h
  | arr ty es =>
    cases es with
    | nil => simp [printableIn] at h
    | cons e es =>
      simp only [printableIn, Bool.and_eq_true] at h
      have hes : allPrintable (.cons e es) = true := by simp [allPrintable, h.2.1, allPrintable_of_sameTy e.ty es h.2.2]
      cases f with
      | zero => simp [Const.size, Consts.size] at hf
      | succ f =>
        have hl := (sepBy_joined comma_ok delim_comma (Or.inr (Or.inr (Or.inl ⟨r, rfl⟩))) (ws_rb r) rfl e es.toList
          (fields_of_vals (ih f (Nat.lt_succ_of_lt (Nat.lt_succ_self f))) (.cons e es) hes (Nat.lt_of_succ_lt_succ hf))).2
        simp [valText, printConsts_cons, tailC_eq, parseValF, altVKw, kw, lit, altHex, altNum, decimal, decDigits,
          isDigit, altStr, altArrC, ws_printConst e h.2.1, hl, toAst, toFields, fieldsOfList, ← Consts.toPairs_eq, fieldsOfList_toPairs]
  | struct ty es =>
    simp only [printableIn, Bool.and_eq_true] at h
    cases es with
    | nil =>
      simp [valText, printConsts, parseValF, altVKw, kw, lit, altHex, altNum, decimal, decDigits, isDigit, altStr,
        altArrC, altStructC, sepBy0, parseFieldF_rc, toAst, toFields, fieldsOfList]
    | cons e es =>
      cases f with
      | zero => simp [Const.size, Consts.size] at hf
      | succ f =>
        have hl := (sepBy_joined comma_ok delim_comma (Or.inr (Or.inr (Or.inr ⟨r, rfl⟩))) (ws_sp ('}' :: r)) rfl e
          es.toList (fields_of_vals (ih f (Nat.lt_succ_of_lt (Nat.lt_succ_self f))) (.cons e es) h.2 (Nat.lt_of_succ_lt_succ hf))).1
        simp only [ws_rc] at hl
        simp only [allPrintable, Bool.and_eq_true] at h
        simp [valText, printConsts_cons, tailC_eq, parseValF, altVKw, kw, lit, altHex, altNum, decimal, decDigits,
          isDigit, altStr, altArrC, altStructC, ws_printConst e h.2.1, hl, toAst, toFields, fieldsOfList,
          ← Consts.toPairs_eq, fieldsOfList_toPairs]

theorem sepLoop_consts : (cs : Consts) → allPrintable cs = true → ∀ f, cs.size < f + 1 →
    ∀ (endStr : List Char) (close : Char) (r : List Char),
    ws (endStr ++ r) = close :: r → Delim (endStr ++ r) → comma (close :: r) = none →
    ∀ k, cs.len ≤ k →
    sepLoop (parseFieldF (f + 1)) comma k (ws (tailC cs ++ (endStr ++ r))) = .ok cs.toPairs (close :: r) := by
  intro cs h f hf endStr close r he hd hc k hk
  rw [tailC_eq, Consts.toPairs_eq]
  exact sepLoop_joined comma_ok delim_comma hd he hc cs.toList (fields_of_vals (parseValF_print f) cs h hf) k
    (Consts.len_eq cs ▸ hk)

/-! ### conversions and the closed round-trip statements -/

mutual
theorem conv_toAst : (c : Const) → printableIn c = true → conv c.ty (toAst c) = some c
  | .undef _, _ | .unit _, _ | .bool _ _, _ | .uint _ _, _ | .str _ _, _ => rfl
  | .u256 ty n, h | .b256 ty n, h => by cases Ty.beq_iff.mp (Bool.and_eq_true_iff.mp h).1; rfl
  | .slice _ _, h | .ref _ _, h | .raw _ _, h => by cases h
  | .arr ty es, h => by
    cases es with
    | nil => simp [printableIn] at h
    | cons e es =>
      simp only [printableIn, Bool.and_eq_true] at h
      have h1 := conv_toAst e h.2.1
      have h2 := convElems_same e.ty es h.2.2
      show conv ty (Ast.arr (Fields.cons e.ty (toAst e) (toFields es))) = some (Const.arr ty (Consts.cons e es))
      simp only [conv, convElems, h1, h2]
  | .struct ty es, h => by
    have h2 := convFields_all es (Bool.and_eq_true_iff.mp h).2
    simp only [Const.ty, toAst, conv, h2]
theorem convElems_same (t : Ty) : (cs : Consts) → allPrintableSameTy t cs = true → convElems t (toFields cs) = some cs
  | .nil, _ => rfl
  | .cons c cs, h => by
    simp only [allPrintableSameTy, Bool.and_eq_true, Ty.beq_iff] at h
    have h1 := conv_toAst c h.1.2
    rw [h.1.1] at h1
    have h2 := convElems_same t cs h.2
    simp only [toFields, convElems, h1, h2]
theorem convFields_all : (cs : Consts) → allPrintable cs = true → convFields (toFields cs) = some cs
  | .nil, _ => rfl
  | .cons c cs, h => by
    simp only [allPrintable, Bool.and_eq_true] at h
    have h1 := conv_toAst c h.1
    have h2 := convFields_all cs h.2
    simp only [toFields, convFields, h1, h2]
end

mutual
theorem Const.size_le : (c : Const) → c.size ≤ (printConst c).length
  | .undef _ | .uint _ _ | .str _ _ | .raw _ _ => by
    simp only [Const.size, printConst, List.length_append, List.length_cons]; omega
  | .unit _ | .bool _ _ | .u256 _ _ | .b256 _ _ => Nat.le_add_left 1 _
  | .ref _ c => by
    have := Const.size_le c
    simp only [Const.size, printConst, List.length_append, List.length_cons, List.length_nil]; omega
  | .arr _ es | .slice _ es | .struct _ es => by
    cases es with
    | nil => simp only [Const.size, Consts.size, printConst, List.length_append, List.length_cons]; omega
    | cons e es =>
      have h1 := Const.size_le e
      have h2 := Consts.size_le es
      simp only [Const.size, Consts.size, printConst, printConsts_cons, List.length_append, List.length_cons,
        List.length_nil]
      omega
theorem Consts.size_le : (cs : Consts) → cs.size ≤ (tailC cs).length
  | .nil => Nat.le_refl 0
  | .cons c cs => by
    have h1 := Const.size_le c
    have h2 := Consts.size_le cs
    simp only [Consts.size, tailC, List.length_append, List.length_cons, List.length_nil]; omega
end

theorem parseTypedF_print (c : Const) (h : printableIn c = true) (hu : ∀ ty, c ≠ .undef ty) :
    parseTypedF ((printConst c).length + 1) (printConst c) = .ok (c.ty, toAst c) [] := by
  have hT := parseTyF_printConst c h []
  have hV := parseValF_print ((printConst c).length + 1) c h hu (Nat.lt_succ_of_le (Const.size_le c)) [] (Or.inl rfl)
  simp only [List.append_nil] at hT hV
  have hw : ws [] = [] := rfl
  simp only [parseTypedF]
  rw [hT]
  simp [hV, hw, optMeta]

theorem parseConst_print (c : Const) (h : printable c = true) : parseConst (printConst c) = .ok c := by
  simp only [printable, Bool.and_eq_true] at h
  have hu : ∀ ty, c ≠ .undef ty := by
    intro ty hc; subst hc; simp at h
  simp [parseConst, parseTypedF_print c h.1 hu, conv_toAst c h.1]

theorem printableIn_of_top (c : Const) (h : printableTop c = true) : printableIn c = true ∧ ∀ ty, c ≠ .undef ty := by
  refine ⟨?_, fun ty hc => by subst hc; cases h⟩
  cases c with
  | undef ty => cases h
  | uint ty n =>
    simp only [printableTop, Bool.and_eq_true, Bool.or_eq_true, Ty.beq_iff] at h
    rcases h with ⟨rfl | rfl, h2⟩ <;> exact Bool.and_eq_true_iff.mpr ⟨rfl, h2⟩
  | str ty bs =>
    simp only [printableTop, Bool.and_eq_true, Ty.beq_iff] at h
    obtain ⟨⟨rfl, h1⟩, h2⟩ := h
    exact Bool.and_eq_true_iff.mpr ⟨h1, h2⟩
  | arr ty es | struct ty es => exact (Bool.and_eq_true_iff.mp h).2
  | _ => exact h

theorem convTop_toAst (c : Const) (h : printableTop c = true) : convTop c.ty (toAst c) = some c := by
  cases c with
  | unit ty | bool ty b => cases Ty.beq_iff.mp h; rfl
  | uint ty n =>
    simp only [printableTop, Bool.and_eq_true, Bool.or_eq_true, Ty.beq_iff] at h
    rcases h.1 with rfl | rfl <;> rfl
  | u256 ty n | b256 ty n => cases Ty.beq_iff.mp (Bool.and_eq_true_iff.mp h).1; rfl
  | str ty bs =>
    simp only [printableTop, Bool.and_eq_true, Ty.beq_iff] at h
    cases h.1.1; rfl
  | arr ty es =>
    obtain ⟨hty, hin⟩ := Bool.and_eq_true_iff.mp h
    cases ty with
    | arr t n => exact conv_toAst _ hin
    | _ => cases hty
  | struct ty es =>
    obtain ⟨hty, hin⟩ := Bool.and_eq_true_iff.mp h
    cases ty with
    | struct ts => exact conv_toAst _ hin
    | _ => cases hty
  | undef ty | slice ty es | ref ty c | raw ty bs => cases h

theorem parseConstTop_print (c : Const) (h : printableTop c = true) : parseConstTop (printConst c) = .ok c := by
  obtain ⟨hin, hu⟩ := printableIn_of_top c h
  simp [parseConstTop, parseTypedF_print c hin hu, convTop_toAst c h]

end SwayVerif.IrText
